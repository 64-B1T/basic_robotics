/-
  The `ℝ` instance of the scalar classes (proof files only) and the bridge lemmas that
  turn the model's operations into Mathlib's.

  Two spellings of 0 and 1 meet over ℝ and are equal only propositionally: a literal in model text is
  `OrdField.natLit n`, i.e. `(n : ℝ)` cast from ℕ, while a literal in a statement written over ℝ is Mathlib's
  numeral (the model's literal instances have low priority).  From 2 on the two agree by `rfl` (`ofNat_real`);
  0 and 1 need `ofNat_real_zero`, `ofNat_real_one`, and at the level of structures `V3.mk_zero`, `V3.zero_eq`,
  `M3.one_eq`, `M3.zero_eq` (Lemmas/Alg.lean).  New statements are best written with Mathlib's `0` and `1`.
-/
import BR.Scalar
import Mathlib.Analysis.SpecialFunctions.Trigonometric.Arctan
import Mathlib.Analysis.SpecialFunctions.Sqrt

noncomputable section

/-- The scalar operations of any linear ordered field (used at `ℝ` and `ℚ`). -/
@[reducible] def OrdField.ofField (K : Type) [Field K] [LinearOrder K] [IsStrictOrderedRing K] :
    OrdField K where
  natLit n := (n : K)
  sciLit m s e := (OfScientific.ofScientific m s e : K)
  decLt _ _ := inferInstance
  decLe _ _ := inferInstance

@[reducible] instance instOrdFieldReal : OrdField ℝ := OrdField.ofField ℝ

/-- a concrete `atan2` for the ℝ instance; no theorem depends on its value except through explicitly stated
    hypotheses -/
def Real.atan2 (y x : ℝ) : ℝ :=
  if 0 < x then Real.arctan (y / x)
  else if x < 0 then (if 0 ≤ y then Real.arctan (y / x) + Real.pi else Real.arctan (y / x) - Real.pi)
  else if 0 < y then Real.pi / 2 else if y < 0 then -(Real.pi / 2) else 0

@[reducible] instance instScalarReal : Scalar ℝ where
  sin := Real.sin
  cos := Real.cos
  tan := Real.tan
  sqrt := Real.sqrt
  acos := Real.arccos
  atan2 := Real.atan2
  floor := fun x => (⌊x⌋ : ℝ)
  pi := Real.pi

end

namespace BR


section field
variable {K : Type} [Field K] [LinearOrder K] [IsStrictOrderedRing K]

@[simp] theorem natLit_field (n : Nat) : (@OrdField.natLit K (OrdField.ofField K) n) = (n : K) := rfl
theorem ofNat_field (n : Nat) [n.AtLeastTwo] :
    (@OfNat.ofNat K n (@OrdField.instOfNat K (OrdField.ofField K) n)) = (OfNat.ofNat n : K) := rfl
@[simp] theorem ofNat_field_zero :
    (@OfNat.ofNat K 0 (@OrdField.instOfNat K (OrdField.ofField K) 0)) = (0 : K) :=
  Nat.cast_zero
@[simp] theorem ofNat_field_one :
    (@OfNat.ofNat K 1 (@OrdField.instOfNat K (OrdField.ofField K) 1)) = (1 : K) :=
  Nat.cast_one
@[simp] theorem sci_field (m : Nat) (s : Bool) (e : Nat) :
    (@OfScientific.ofScientific K (@OrdField.instOfScientific K (OrdField.ofField K)) m s e)
      = (OfScientific.ofScientific m s e : K) := rfl
@[simp] theorem sabs_field (x : K) : @sabs K (OrdField.ofField K) x = |x| := by
  unfold sabs
  split_ifs with h
  · rw [ofNat_field_zero] at h
    exact (abs_of_neg h).symm
  · rw [ofNat_field_zero, not_lt] at h
    exact (abs_of_nonneg h).symm
end field

@[simp] theorem sabs_real (x : ℝ) : sabs x = |x| := sabs_field x

/-! the same bridges for the instance path `Scalar ℝ → OrdField ℝ` (what models over `[Scalar α]` produce) -/
theorem ofNat_real (n : Nat) [n.AtLeastTwo] :
    (@OfNat.ofNat ℝ n (@OrdField.instOfNat ℝ (@Scalar.toOrdField ℝ instScalarReal) n)) = (OfNat.ofNat n : ℝ) := rfl
@[simp] theorem ofNat_real_zero :
    (@OfNat.ofNat ℝ 0 (@OrdField.instOfNat ℝ (@Scalar.toOrdField ℝ instScalarReal) 0)) = (0 : ℝ) :=
  ofNat_field_zero
@[simp] theorem ofNat_real_one :
    (@OfNat.ofNat ℝ 1 (@OrdField.instOfNat ℝ (@Scalar.toOrdField ℝ instScalarReal) 1)) = (1 : ℝ) :=
  ofNat_field_one
@[simp] theorem sabs_real' (x : ℝ) : @sabs ℝ (@Scalar.toOrdField ℝ instScalarReal) x = |x| := sabs_field x
@[simp] theorem sin_real (x : ℝ) : Scalar.sin x = Real.sin x := rfl
@[simp] theorem cos_real (x : ℝ) : Scalar.cos x = Real.cos x := rfl
@[simp] theorem tan_real (x : ℝ) : Scalar.tan x = Real.tan x := rfl
@[simp] theorem sqrt_real (x : ℝ) : Scalar.sqrt x = Real.sqrt x := rfl
@[simp] theorem acos_real (x : ℝ) : Scalar.acos x = Real.arccos x := rfl
@[simp] theorem pi_real : (Scalar.pi : ℝ) = Real.pi := rfl
@[simp] theorem sci_real (m : Nat) (s : Bool) (e : Nat) :
    (@OfScientific.ofScientific ℝ (@OrdField.instOfScientific ℝ (@Scalar.toOrdField ℝ instScalarReal)) m s e)
      = (OfScientific.ofScientific m s e : ℝ) := rfl

end BR
