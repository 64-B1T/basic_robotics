/-
  C03 / C01 (cut-off band) — inside the exponential's 1e-6 band the library's exp∘log is not the identity by design; this
  file bounds what is lost: for a rotation R whose angle θ lies in (0, 1e-6), every entry of R − exp(log R) is at most
  θ + θ²/2 in absolute value (so a `tm` built from such a matrix is coherent to 1e-6·(1 + 5e-7)).
-/
-- The order of the two imports is part of the statements below: with Mathlib first the `/` and the `2` of `θ ^ 2 / 2`
-- elaborate to the model's `OrdField ℝ` operations, with the other order to Mathlib's (as everywhere else).  The values
-- agree, the terms do not; the statements are meant as they stand.
import Mathlib.Analysis.SpecialFunctions.Trigonometric.Bounds
import BR.Lemmas.Log3

namespace BR.C03B
open BR.MR BR.Rot

def EntriesLE (A : M3 ℝ) (b : ℝ) : Prop :=
  |A.a11| ≤ b ∧ |A.a12| ≤ b ∧ |A.a13| ≤ b ∧ |A.a21| ≤ b ∧ |A.a22| ≤ b ∧ |A.a23| ≤ b ∧
  |A.a31| ≤ b ∧ |A.a32| ≤ b ∧ |A.a33| ≤ b

theorem abs_smul_add_le {s m σ μ k q : ℝ} (hs : |s| ≤ σ) (hm : |m| ≤ μ) (hk : |k| ≤ 1) (hq : |q| ≤ 1) :
    |s * k + m * q| ≤ σ + μ :=
  calc |s * k + m * q| ≤ |s| * |k| + |m| * |q| := by rw [← abs_mul, ← abs_mul]; exact abs_add_le _ _
    _ ≤ σ + μ :=
      add_le_add ((mul_le_of_le_one_right (abs_nonneg s) hk).trans hs)
        ((mul_le_of_le_one_right (abs_nonneg m) hq).trans hm)

theorem EntriesLE.smul_add {A B : M3 ℝ} (hA : EntriesLE A 1) (hB : EntriesLE B 1) {s m σ μ : ℝ}
    (hs : |s| ≤ σ) (hm : |m| ≤ μ) : EntriesLE (s • A + m • B) (σ + μ) := by
  obtain ⟨a1, a2, a3, a4, a5, a6, a7, a8, a9⟩ := hA
  obtain ⟨b1, b2, b3, b4, b5, b6, b7, b8, b9⟩ := hB
  exact ⟨abs_smul_add_le hs hm a1 b1, abs_smul_add_le hs hm a2 b2, abs_smul_add_le hs hm a3 b3,
    abs_smul_add_le hs hm a4 b4, abs_smul_add_le hs hm a5 b5, abs_smul_add_le hs hm a6 b6,
    abs_smul_add_le hs hm a7 b7, abs_smul_add_le hs hm a8 b8, abs_smul_add_le hs hm a9 b9⟩

theorem hat_entriesLE {x y z : ℝ} (hu : x * x + y * y + z * z = 1) :
    EntriesLE (hat ⟨x, y, z⟩) 1 ∧ EntriesLE (hat ⟨x, y, z⟩ * hat ⟨x, y, z⟩) 1 := by
  -- [u] has the entries 0, ±uᵢ; [u]² has uᵢuⱼ off the diagonal (`h2`) and −(uⱼ² + uₖ²) on it (`hd`)
  have hu' : y * y + x * x + z * z = 1 := by rw [add_comm (y * y)]; exact hu
  have hu'' : z * z + x * x + y * y = 1 := (add_rotate _ _ _).trans hu
  have hx : |x| ≤ 1 := abs_le_one_of_unit hu
  have hy : |y| ≤ 1 := abs_le_one_of_unit hu'
  have hz : |z| ≤ 1 := abs_le_one_of_unit hu''
  have h2 : ∀ {a b : ℝ}, |a| ≤ 1 → |b| ≤ 1 → |a * b| ≤ 1 := fun ha hb => by
    rw [abs_mul]; exact mul_le_one₀ ha (abs_nonneg _) hb
  have hd : ∀ {a b c : ℝ}, a * a + b * b + c * c = 1 → |-(c * c) + -(b * b)| ≤ 1 := fun {a b c} h => by
    rw [← neg_add, abs_neg, abs_of_nonneg (add_nonneg (mul_self_nonneg c) (mul_self_nonneg b))]
    linarith only [mul_self_nonneg a, h]
  constructor
  · simp only [EntriesLE, hat, ofNat_real_zero, abs_zero, abs_neg]
    exact ⟨zero_le_one, hz, hy, hz, zero_le_one, hx, hy, hx, zero_le_one⟩
  · simp only [EntriesLE, hat, M3.mul_def, M3.mul, ofNat_real_zero, zero_mul, mul_zero, zero_add, add_zero,
      neg_mul, mul_neg, neg_neg, neg_zero]
    exact ⟨hd hu, h2 hy hx, h2 hz hx, h2 hx hy, hd hu', h2 hz hy, h2 hx hz, h2 hy hz, hd hu''⟩

/-- every entry of sin θ·[u] + (1 − cos θ)·[u]² is at most θ + θ²/2 in absolute value (u a unit vector, θ ≥ 0) -/
theorem rod_sub_one_entry_bound (u : V3 ℝ) (hu : u.x ^ 2 + u.y ^ 2 + u.z ^ 2 - 1 = 0) (θ : ℝ) (hθ : 0 ≤ θ) :
    let D := rod u (Real.sin θ) (Real.cos θ) - (1 : M3 ℝ)
    |D.a11| ≤ θ + θ ^ 2 / 2 ∧ |D.a12| ≤ θ + θ ^ 2 / 2 ∧ |D.a13| ≤ θ + θ ^ 2 / 2 ∧
    |D.a21| ≤ θ + θ ^ 2 / 2 ∧ |D.a22| ≤ θ + θ ^ 2 / 2 ∧ |D.a23| ≤ θ + θ ^ 2 / 2 ∧
    |D.a31| ≤ θ + θ ^ 2 / 2 ∧ |D.a32| ≤ θ + θ ^ 2 / 2 ∧ |D.a33| ≤ θ + θ ^ 2 / 2 := by
  have hs : |Real.sin θ| ≤ θ := Real.abs_sin_le_abs.trans_eq (abs_of_nonneg hθ)
  have hc : |1 - Real.cos θ| ≤ θ ^ 2 / 2 := by
    rw [abs_of_nonneg (sub_nonneg.2 (Real.cos_le_one θ))]
    exact sub_le_comm.1 Real.one_sub_sq_div_two_le_cos
  obtain ⟨x, y, z⟩ := u
  obtain ⟨h1, h2⟩ := hat_entriesLE (x := x) (y := y) (z := z) (by rw [← sq, ← sq, ← sq]; exact sub_eq_zero.1 hu)
  have hD : rod ⟨x, y, z⟩ (Real.sin θ) (Real.cos θ) - (1 : M3 ℝ) =
      Real.sin θ • hat ⟨x, y, z⟩ + (1 - Real.cos θ) • (hat ⟨x, y, z⟩ * hat ⟨x, y, z⟩) := by
    rw [rod_eq, add_assoc, add_sub_cancel_left]
  rw [hD]
  exact h1.smul_add h2 hs hc

/-- **loss of exp∘log inside the band**: for a rotation whose angle θ is in (0, 1e-6), R − exp3(log3 R) = R − I and every
    entry is at most θ + θ²/2 < 1e-6·(1 + 5e-7) in absolute value -/
theorem band_roundtrip_bound (R : M3 ℝ) (hR : IsRot R) (hlo : -1 < (R.trace - 1) / 2) (hhi : (R.trace - 1) / 2 < 1)
    (hband : Real.arccos ((R.trace - 1) / 2) < (1e-6 : ℝ)) :
    matrixExp3 (matrixLog3 R) = M3.one ∧
    ∃ θ : ℝ, 0 < θ ∧ θ < 1e-6 ∧
      let D := R - (1 : M3 ℝ)
      |D.a11| ≤ θ + θ ^ 2 / 2 ∧ |D.a12| ≤ θ + θ ^ 2 / 2 ∧ |D.a13| ≤ θ + θ ^ 2 / 2 ∧
      |D.a21| ≤ θ + θ ^ 2 / 2 ∧ |D.a22| ≤ θ + θ ^ 2 / 2 ∧ |D.a23| ≤ θ + θ ^ 2 / 2 ∧
      |D.a31| ≤ θ + θ ^ 2 / 2 ∧ |D.a32| ≤ θ + θ ^ 2 / 2 ∧ |D.a33| ≤ θ + θ ^ 2 / 2 := by
  obtain ⟨u, hA⟩ := log3_axisAngle R hR
  have hpos := Real.arccos_pos.mpr hhi
  have hnz : nearZero (norm3 (Real.arccos ((R.trace - 1) / 2) • u)) := by
    rw [hA.norm3_smul, nearZero_iff, abs_abs, abs_of_pos hpos]; exact hband
  refine ⟨by rw [hA.log, exp3_small _ hnz], _, hpos, hband, ?_⟩
  have := rod_sub_one_entry_bound u hA.unit _ hpos.le
  rwa [← hA.rod] at this

end BR.C03B
