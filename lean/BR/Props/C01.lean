/-
  C01 — rigid-motion primitives: exp/log are inverse, inverse/adjoint are homomorphic.
  Property theorems about BR/Model/MR.lean at the `ℝ` instance.  Where the fact is already a lemma of
  BR/Lemmas (SO3, Exp3, Log3, SE3) the theorem here restates it in this namespace.
-/
import BR.Lemmas.SE3
import BR.Lemmas.Log3

namespace BR.C01
open BR.MR BR.Rot

def IsSkew (m : M3 ℝ) : Prop := m.T = -m

theorem vee_hat (w : V3 ℝ) : vee (hat w) = w := BR.Rot.vee_hat w

theorem hat_vee (m : M3 ℝ) (h : IsSkew m) : hat (vee m) = m := by
  obtain ⟨a, b, c, d, e, f, g, h', i⟩ := m
  unfold IsSkew at h
  revert h; m3simp
  -- entrywise: from a = -a ∧ d = -b ∧ g = -c ∧ … to 0 = a ∧ -d = b ∧ … ∧ -c = g ∧ …
  rintro ⟨h1, -, h3, h4, h5, -, -, h8, h9⟩
  exact ⟨(self_eq_neg.1 h1).symm, h4.symm, trivial, trivial, (self_eq_neg.1 h5).symm, h8.symm, h3.symm, trivial,
    (self_eq_neg.1 h9).symm⟩

theorem vee6_hat6 (V : V6 ℝ) : vee6 (hat6 V) = V := by
  obtain ⟨⟨a, b, c⟩, v⟩ := V; rfl

theorem hat6_vee6 (X : T4 ℝ) (h : IsSkew X.R) : hat6 (vee6 X) = X :=
  T4.ext (hat_vee X.R h) rfl

/-- **exp3 lands in SO(3)** for every rotation vector (both branches of the cut-off). -/
theorem exp3_mem_SO3 (w : V3 ℝ) : IsRot (matrixExp3 (hat w)) := exp3_isRot w

/-- **exp6 is a rigid transform**: its rotation block is exp3 of the angular part (`exp6_R`) -/
theorem exp6_mem_SE3 (V : V6 ℝ) : IsRot (matrixExp6 (hat6 V)).R := exp6_isRot V

/-- **log3 ∘ exp3 = id** for rotation angle in [1e-6, π). -/
theorem log3_exp3 (w : V3 ℝ) (h1 : (1e-6 : ℝ) ≤ norm3 w) (h2 : norm3 w < Real.pi) :
    matrixLog3 (matrixExp3 (hat w)) = hat w := by
  have hpos := pos_of_cutoff_le h1
  rw [exp3_eq_rod w (not_nearZero_of_le _ h1), log3_rod _ (unit_of_pos w hpos) _ hpos h2, V3.sdiv_eq_smul,
    smul_smul, mul_one_div_cancel hpos.ne', one_smul]

/-- inside the cut-off band exp3 is the identity and its log is 0: the round-trip error is
    exactly the rotation vector itself, of norm < 1e-6 (the property's "cut-off" allowance). -/
theorem log3_exp3_small (w : V3 ℝ) (h : norm3 w < (1e-6 : ℝ)) :
    matrixLog3 (matrixExp3 (hat w)) = M3.zero := by
  rw [exp3_small w (by rw [nearZero_iff, abs_of_nonneg (norm3_nonneg w)]; exact h), log3_one]

theorem vee_log3_exp3 (w : V3 ℝ) (h : w = ⟨0, 0, 0⟩ ∨ ((1e-6 : ℝ) ≤ norm3 w ∧ norm3 w < Real.pi)) :
    vee (matrixLog3 (matrixExp3 (hat w))) = w := by
  rcases h with rfl | ⟨h1, h2⟩
  · rw [log3_exp3_small _ (by rw [V3.mk_zero, norm3_zero]; norm_num)]
    simp only [vee, M3.zero, ofNat_real_zero]
  · rw [log3_exp3 w h1 h2, BR.Rot.vee_hat]

/-- **exp3 ∘ log3 = id on all of SO(3)** (identity, generic and half-turn branches with all three
    pivots), for every rotation whose angle is 0 or at least the library's 1e-6 cut-off. -/
theorem exp3_log3 (R : M3 ℝ) (hR : IsRot R)
    (h : 1 ≤ (R.trace - 1) / 2 ∨ (1e-6 : ℝ) ≤ Real.arccos ((R.trace - 1) / 2)) :
    matrixExp3 (matrixLog3 R) = R := BR.Rot.exp3_log3 R hR h

/-- half turns (trace = −1) are covered: the hypothesis of `exp3_log3` holds there -/
example (R : M3 ℝ) (ht : R.trace = -1) : (1e-6 : ℝ) ≤ Real.arccos ((R.trace - 1) / 2) := by
  exact cutoff_le_arccos (by rw [ht]; norm_num)

/-! ### inverse and adjoint agree with the group structure -/

/-- **inv(T)·T = I** for every T with orthonormal rotation block -/
theorem transInv_mul (T : T4 ℝ) (h : T.R.T * T.R = M3.one) : transInv T * T = T4.one := Rot.transInv_mul T h

theorem mul_transInv (T : T4 ℝ) (h : IsRot T.R) : T * transInv T = T4.one :=
  Rot.mul_transInv T (isRot_inv h).1

/-- **Ad(T1·T2) = Ad(T1)·Ad(T2)** -/
theorem adjoint_mul (T1 T2 : T4 ℝ) (h1 : IsRot T1.R) : adjoint (T1 * T2) = adjoint T1 * adjoint T2 :=
  Rot.adjoint_mul T1 T2 h1

/-- **Ad(inv T) = inv(Ad T)** (stated as a two-sided inverse) -/
theorem adjoint_transInv (T : T4 ℝ) (h : IsRot T.R) :
    adjoint (transInv T) * adjoint T = M6.one ∧ adjoint T * adjoint (transInv T) = M6.one := by
  constructor
  · rw [← Rot.adjoint_mul _ _ (transInv_isRot h), Rot.transInv_mul T h.1, adjoint_one]
  · rw [← Rot.adjoint_mul _ _ h, mul_transInv T h, adjoint_one]

/-- product of a rigid transform with an se(3) matrix (bottom row 0) and back: T·X·inv(T) -/
noncomputable def conj (T X : T4 ℝ) : T4 ℝ :=
  let TX : T4 ℝ := ⟨T.R * X.R, T.R.mulVec X.p⟩                      -- T·X, bottom row 0
  ⟨TX.R * (transInv T).R, TX.R.mulVec (transInv T).p + TX.p⟩         -- (T·X)·inv(T), bottom row 0

/-- **T·[V]·inv(T) = [Ad(T) V]** -/
theorem conj_hat6 (T : T4 ℝ) (h : IsRot T.R) (V : V6 ℝ) :
    conj T (hat6 V) = hat6 ((adjoint T).mulVec V) :=
  (hat6_adjoint_mulVec T h V).symm

/-- `ad` is the Lie bracket: [ad_V W] = [V][W] − [W][V] (4×4 commutator of se(3) matrices) -/
theorem ad_bracket (V W : V6 ℝ) :
    hat6 ((ad V).mulVec W) =
      ⟨hat V.a * hat W.a - hat W.a * hat V.a, (hat V.a).mulVec W.b - (hat W.a).mulVec V.b⟩ := by
  obtain ⟨⟨a, b, c⟩, ⟨d, e, f⟩⟩ := V
  obtain ⟨⟨g, h, i⟩, ⟨j, k, l⟩⟩ := W
  m3ring

/-! ### non-vacuity of the hypotheses -/

noncomputable def R345 : M3 ℝ := ⟨3 / 5, -4 / 5, 0, 4 / 5, 3 / 5, 0, 0, 0, 1⟩
example : IsRot R345 := by
  unfold R345
  constructor
  · simp only [M3.mul_def, M3.mul, M3.T, M3.one, ofNat_real_zero, ofNat_real_one, M3.mk.injEq]
    norm_num
  · norm_num [M3.det]
example : ∃ w : V3 ℝ, (1e-6 : ℝ) ≤ norm3 w ∧ norm3 w < Real.pi := by
  refine ⟨⟨1, 0, 0⟩, ?_⟩
  rw [norm3_eq_of_sq _ 1 zero_le_one (by norm_num)]
  exact ⟨by norm_num, by linarith [Real.two_le_pi]⟩

/-! ### `MatrixLog6` in closed form -/

namespace Log6

/-- half-angle facts behind the `1/tan(θ/2)` term of MatrixLog6.  They cover θ = π: there `cos (θ/2) = 0`, so
    `Real.tan (θ/2) = 0` and `1 / 0 = 0` in Lean, which is the true cotangent; numpy returns ≈ 6e-17. -/
theorem cot_half (θ : ℝ) (hs : Real.sin (θ / 2) ≠ 0) :
    (1 - Real.cos θ) * (1 / Real.tan (θ / 2)) = Real.sin θ ∧ (1 / Real.tan (θ / 2)) * Real.sin θ = 1 + Real.cos θ := by
  have hct : 1 / Real.tan (θ / 2) * Real.sin (θ / 2) = Real.cos (θ / 2) := by
    rw [Real.tan_eq_sin_div_cos, one_div, inv_div, div_mul_cancel₀ _ hs]
  have hsin : Real.sin θ = 2 * Real.sin (θ / 2) * Real.cos (θ / 2) := by
    rw [← Real.sin_two_mul, mul_div_cancel₀ θ two_ne_zero]
  have hcos : Real.cos θ = 2 * Real.cos (θ / 2) ^ 2 - 1 := by
    rw [← Real.cos_two_mul, mul_div_cancel₀ θ two_ne_zero]
  have hsc := Real.sin_sq_add_cos_sq (θ / 2)
  generalize 1 / Real.tan (θ / 2) = ct at hct ⊢
  rw [hsin, hcos]
  -- with s, c the sine and cosine of θ/2 and ct·s = c: (2 − 2c²)·ct = 2s²·ct = 2sc, and ct·2sc = 2c²
  constructor
  · linear_combination 2 * Real.sin (θ / 2) * hct - 2 * ct * hsc
  · linear_combination 2 * Real.cos (θ / 2) * hct

/-- the matrix `MatrixLog6` puts in front of the translation, as a polynomial in the hat of the unit axis -/
noncomputable def lterm (K : M3 ℝ) (θ : ℝ) : M3 ℝ :=
  kpoly K 1 (-(θ / 2)) ((1 / θ - 1 / Real.tan (θ / 2) / 2) * θ)

/-- `lterm_mul_G` below is this with `lterm` written out -/
theorem lterm_mul_Gmat (u : V3 ℝ) (hu : u.x ^ 2 + u.y ^ 2 + u.z ^ 2 - 1 = 0) (θ : ℝ) (hθ : θ ≠ 0)
    (hs : Real.sin (θ / 2) ≠ 0) : lterm (hat u) θ * Gmat (hat u) θ = θ • (1 : M3 ℝ) := by
  obtain ⟨h1, h2⟩ := cot_half θ hs
  rw [lterm, Gmat_eq_kpoly, kpoly_mul _ (hat_cube u hu)]
  generalize 1 / Real.tan (θ / 2) = ct at h1 h2 ⊢
  have hc : (1 / θ - ct / 2) * θ = 1 - θ / 2 * ct := by linear_combination one_div_mul_cancel hθ
  rw [hc]
  -- the product is θ·1 + e₁·K + e₂·K² (`kpoly_mul`); e₁ and e₂ vanish by the half-angle identities
  have e1 : 1 * (1 - Real.cos θ) + -(θ / 2) * θ - -(θ / 2) * (θ - Real.sin θ) - (1 - θ / 2 * ct) * (1 - Real.cos θ) = 0 := by
    linear_combination (θ / 2) * h1
  have e2 : 1 * (θ - Real.sin θ) + -(θ / 2) * (1 - Real.cos θ) + (1 - θ / 2 * ct) * θ -
      (1 - θ / 2 * ct) * (θ - Real.sin θ) = 0 := by
    linear_combination (-(θ / 2)) * h2
  rw [e1, e2, one_mul, kpoly, zero_smul, zero_smul, add_zero, add_zero]

/-- the `lterm` of MatrixLog6 undoes the `G` of MatrixExp6: `lterm · G = θ·I` -/
theorem lterm_mul_G (u : V3 ℝ) (hu : u.x ^ 2 + u.y ^ 2 + u.z ^ 2 - 1 = 0) (θ : ℝ) (hθ : θ ≠ 0) (hs : Real.sin (θ / 2) ≠ 0) :
    ((1 : M3 ℝ) + (-(θ / 2)) • hat u + ((1 / θ - 1 / Real.tan (θ / 2) / 2) * θ) • (hat u * hat u)) * Gmat (hat u) θ = θ • (1 : M3 ℝ) := by
  have h := lterm_mul_Gmat u hu θ hθ hs
  rwa [lterm, kpoly, one_smul] at h

theorem Gmat_mul_lterm (u : V3 ℝ) (hu : u.x ^ 2 + u.y ^ 2 + u.z ^ 2 - 1 = 0) (θ : ℝ) (hθ : θ ≠ 0)
    (hs : Real.sin (θ / 2) ≠ 0) : Gmat (hat u) θ * lterm (hat u) θ = θ • (1 : M3 ℝ) := by
  rw [Gmat_eq_kpoly, lterm, kpoly_mul_comm _ (hat_cube u hu)]
  exact lterm_mul_Gmat u hu θ hθ hs

end Log6
open Log6

theorem hat_ne_zero (w : V3 ℝ) (h : norm3 w ≠ 0) : ¬ m3IsZero (hat w) := by
  intro hz
  obtain ⟨x, y, z⟩ := w
  unfold m3IsZero at hz
  simp only [hat, ofNat_real_zero, neg_eq_zero] at hz
  obtain ⟨_, hz1, hz2, _, _, hz3, _, _, _⟩ := hz
  rw [hz1, hz2, hz3, V3.mk_zero] at h
  exact h norm3_zero

section log6
variable (eq0 : M3 ℝ → Bool) (heq0 : ∀ m, eq0 m = true ↔ m3IsZero m)
include heq0

theorem log6_of_one_le {R : M3 ℝ} (h : 1 ≤ (R.trace - 1) / 2) (p : V3 ℝ) :
    matrixLog6 eq0 ⟨R, p⟩ = ⟨M3.zero, p⟩ := by
  unfold matrixLog6
  simp only [log3_of_one_le h]
  rw [if_pos ((heq0 _).2 (by unfold m3IsZero M3.zero; simp))]

theorem log6_of_axisAngle {R : M3 ℝ} {u : V3 ℝ} {θ : ℝ} (hA : AxisAngle R u θ)
    (hang : Real.arccos ((R.trace - 1) / 2) = θ) (hθ : 0 < θ) (p : V3 ℝ) :
    matrixLog6 eq0 ⟨R, p⟩ = ⟨hat (θ • u), (lterm (hat u) θ).mulVec p⟩ := by
  have hnz : eq0 (hat (θ • u)) = false := Bool.eq_false_iff.mpr fun hb =>
    hat_ne_zero _ (by rw [hA.norm3_smul, abs_of_pos hθ]; exact hθ.ne') ((heq0 _).1 hb)
  unfold matrixLog6
  simp only [hA.log, hnz, Bool.false_eq_true, ↓reduceIte, ofNat_real_one, ofNat_real, acos_real, tan_real,
    arccos_safeClip, hang]
  -- the rotation blocks agree syntactically; what is left is the code's expression for the translation
  -- (in `[θu]/θ` and its square) against `lterm` (in `[u]`)
  congr 2
  rw [hat_smul, M3.one_eq, M3.sdiv_eq_smul, M3.sdiv_eq_smul, M3.smul_eq, lterm, kpoly]
  simp only [smul_mul_assoc, mul_smul_comm, smul_smul]
  generalize 1 / θ - 1 / Real.tan (θ / 2) / 2 = c
  have e2 : 1 / θ * (c * (θ * θ)) = c * θ := by
    rw [← mul_assoc c, mul_left_comm, one_div_mul_cancel hθ.ne', mul_one]
  -- left: 1 − (1/2·θ)•K + (1/θ·(c·θ²))•K²; right: 1•1 + −(θ/2)•K + (c·θ)•K²: the same coefficients
  rw [e2, one_smul, sub_eq_add_neg, ← neg_smul, one_div_mul_eq_div]

end log6

/-- **log6 ∘ exp6 = id** for every twist whose rotation part has angle in [1e-6, π) (any translation part), and for pure
    translations; `eq0` is the code's `np.array_equal(omgmat, zeros)` -/
theorem log6_exp6 (eq0 : M3 ℝ → Bool) (heq0 : ∀ m, eq0 m = true ↔ m3IsZero m) (V : V6 ℝ)
    (h : V.a = ⟨0, 0, 0⟩ ∨ ((1e-6 : ℝ) ≤ norm3 V.a ∧ norm3 V.a < Real.pi)) :
    matrixLog6 eq0 (matrixExp6 (hat6 V)) = hat6 V := by
  obtain ⟨ω, v⟩ := V
  rcases h with h0 | ⟨h1, h2⟩
  · simp only at h0
    rw [h0, V3.mk_zero, exp6_translating ⟨0, v⟩ nearZero_norm3_zero,
      log6_of_one_le eq0 heq0 one_le_trace_one]
    show _ = (⟨hat 0, v⟩ : T4 ℝ)
    rw [hat_zero]; rfl
  · obtain ⟨u, v', θ, hu, hθ, hV⟩ := unit_decomp ⟨ω, v⟩ h1
    obtain ⟨rfl, rfl⟩ := V6.mk.inj hV
    have hpos := pos_of_cutoff_le hθ
    have hπ : θ < Real.pi := by rwa [norm3_smul_unit hu, abs_of_pos hpos] at h2
    have hunit := unit_of_norm3 hu
    -- exp6 returns `rod u θ` with translation `G·(θ v')`; log6 reads (u, θ) back off it and applies `lterm`
    have hA : AxisAngle (rod u (Real.sin θ) (Real.cos θ)) u θ := ⟨hunit, rfl, log3_rod u hunit θ hpos hπ⟩
    rw [exp6_unit_pos u v' hu θ hθ, screwExp, log6_of_axisAngle eq0 heq0 hA (arccos_trace_rod hunit hpos.le hπ.le) hpos,
      ← mulVec_mul, lterm_mul_Gmat u hunit θ hpos.ne'
        (Real.sin_pos_of_pos_of_lt_pi (half_pos hpos) ((half_lt_self hpos).trans hπ)).ne',
      smul_mulVec, one_mulVec]
    rfl

/-- **exp6 ∘ log6 = id for every rigid transform** whose rotation angle is 0 or at least the library's 1e-6 cut-off:
    identity, generic and half-turn branches -/
theorem exp6_log6 (eq0 : M3 ℝ → Bool) (heq0 : ∀ m, eq0 m = true ↔ m3IsZero m) (T : T4 ℝ) (hR : IsRot T.R)
    (h : 1 ≤ (T.R.trace - 1) / 2 ∨ (1e-6 : ℝ) ≤ Real.arccos ((T.R.trace - 1) / 2)) :
    matrixExp6 (matrixLog6 eq0 T) = T := by
  obtain ⟨R, p⟩ := T
  simp only at hR h
  by_cases h1 : 1 ≤ (R.trace - 1) / 2
  · rw [log6_of_one_le eq0 heq0 h1, eq_one_of_isRot_trace hR (by linarith only [h1])]
    have : (⟨M3.zero, p⟩ : T4 ℝ) = hat6 ⟨0, p⟩ := by rw [hat6, hat_zero]; rfl
    rw [this, exp6_translating ⟨0, p⟩ nearZero_norm3_zero]
    rfl
  · have hθ6 := h.resolve_left h1
    obtain ⟨u, hA⟩ := log3_axisAngle R hR
    generalize hang : Real.arccos ((R.trace - 1) / 2) = θ at hA hθ6
    have hpos := pos_of_cutoff_le hθ6
    have hπ : θ ≤ Real.pi := hang ▸ Real.arccos_le_pi _
    have hs : Real.sin (θ / 2) ≠ 0 :=
      (Real.sin_pos_of_pos_of_lt_pi (half_pos hpos) ((half_lt_self hpos).trans_le hπ)).ne'
    rw [log6_of_axisAngle eq0 heq0 hA hang hpos]
    -- `exp6_unit_pos` wants the twist as θ • (u, v'): take v' = θ⁻¹ · lterm p
    have hform : (⟨hat (θ • u), (lterm (hat u) θ).mulVec p⟩ : T4 ℝ) =
        hat6 ⟨θ • u, θ • (θ⁻¹ • (lterm (hat u) θ).mulVec p)⟩ := by rw [smul_inv_smul₀ hpos.ne']; rfl
    rw [hform, exp6_unit_pos u _ (norm3_of_unit hA.unit) θ hθ6, screwExp, ← hA.rod,
      mulVec_smul, ← mulVec_mul, Gmat_mul_lterm u hA.unit θ hpos.ne' hs, smul_mulVec, one_mulVec,
      inv_smul_smul₀ hpos.ne']

/-- **exp6 ∘ log6 = id** for every rigid transform whose rotation angle is 0 or lies in [1e-6, π) -/
theorem exp6_log6_below_pi (eq0 : M3 ℝ → Bool) (heq0 : ∀ m, eq0 m = true ↔ m3IsZero m) (T : T4 ℝ) (hR : IsRot T.R)
    (h : 1 ≤ (T.R.trace - 1) / 2 ∨ (-1 < (T.R.trace - 1) / 2 ∧ (1e-6 : ℝ) ≤ Real.arccos ((T.R.trace - 1) / 2))) :
    matrixExp6 (matrixLog6 eq0 T) = T :=
  exp6_log6 eq0 heq0 T hR (h.imp_right And.right)

/-- **exp6 ∘ log6 = id on the half-turn branch** (rotation angle exactly π, any of the three pivots) -/
theorem exp6_log6_halfturn (eq0 : M3 ℝ → Bool) (heq0 : ∀ m, eq0 m = true ↔ m3IsZero m) (T : T4 ℝ) (hR : IsRot T.R)
    (hle : (T.R.trace - 1) / 2 ≤ -1) : matrixExp6 (matrixLog6 eq0 T) = T :=
  exp6_log6 eq0 heq0 T hR (Or.inr (cutoff_le_arccos hle))

/-- the hypothesis of `log6_exp6` is met by a rotation of 1 rad about z -/
example : (1e-6 : ℝ) ≤ norm3 (⟨0, 0, 1⟩ : V3 ℝ) ∧ norm3 (⟨0, 0, 1⟩ : V3 ℝ) < Real.pi := by
  have : norm3 (⟨0, 0, 1⟩ : V3 ℝ) = 1 := norm3_eq_of_sq _ 1 (by norm_num) (by norm_num)
  rw [this]; constructor <;> [norm_num; linarith [Real.two_le_pi]]

end BR.C01
