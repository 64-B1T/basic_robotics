/-
  C05 — arm forward kinematics is base · product of exponentials · home, through any history.
  Property theorems about BR/Model/Arm.lean at ℝ.
-/
import BR.Lemmas.SE3
import BR.Model.Arm

namespace BR.C05
open BR.MR BR.Rot BR.ArmModel

/-- the right-hand side of the property: base · ∏ exp([S_i] θ_i) · M with the screws and tool home
    *as given at construction* (base-local) -/
noncomputable def fkSpec (B : T4 ℝ) (S0 : List (V6 ℝ)) (M : T4 ℝ) (θ : List ℝ) : T4 ℝ :=
  B * fkinSpace M (S0.zip θ)

/-- every joint is prismatic, at zero, or turned by at least the 1e-6 cut-off -/
def JointsOK (S0 : List (V6 ℝ)) (θ : List ℝ) : Prop := ∀ j ∈ S0.zip θ, JointOK j

/-- what every write-back evaluates: FKinSpace with the stored world-frame screws and home is the base-local
    product of exponentials moved by the base (`fkinSpace_conj`) -/
theorem fkin_stored_eq_spec (B M : T4 ℝ) (S0 : List (V6 ℝ)) (hB : IsRot B.R) (θ : List ℝ) (hj : JointsOK S0 θ) :
    fkinSpace (B * M) ((S0.map fun S => (adjoint B).mulVec S).zip θ) = fkSpec B S0 M θ := by
  rw [List.zip_map_left]
  exact fkinSpace_conj B M hB _ hj

/-- **FK = base · product of exponentials · home**, with the joint vector clamped to the limits -/
theorem fk_eq_spec (a : Arm ℝ) (hB : IsRot a.base.R) (θ : List ℝ)
    (hj : JointsOK a.S0 (clamp a.mins a.maxs θ)) :
    (fk a θ).eePos = fkSpec a.base a.S0 a.Mloc (clamp a.mins a.maxs θ) ∧
    (fk a θ).theta = clamp a.mins a.maxs θ :=
  ⟨fkin_stored_eq_spec _ _ _ hB _ hj, rfl⟩

theorem fkRaw_eq_spec (a : Arm ℝ) (hB : IsRot a.base.R) (θ : List ℝ) (hj : JointsOK a.S0 θ) :
    (fkRaw a θ).eePos = fkSpec a.base a.S0 a.Mloc θ :=
  fkin_stored_eq_spec _ _ _ hB θ hj

theorem clamp1_within (lo hi x : ℝ) (h : lo ≤ hi) : lo ≤ clamp1 lo hi x ∧ clamp1 lo hi x ≤ hi := by
  unfold clamp1
  split_ifs with h1 h2
  · exact ⟨le_refl _, h⟩
  · exact ⟨h, le_refl _⟩
  · exact ⟨not_lt.mp h1, not_lt.mp h2⟩

theorem clamp1_of_within (lo hi x : ℝ) (h1 : lo ≤ x) (h2 : x ≤ hi) : clamp1 lo hi x = x := by
  rw [clamp1, if_neg (not_lt.mpr h1), if_neg (not_lt.mpr h2)]

theorem clamp_within (mins maxs θ : List ℝ) (h : ∀ p ∈ mins.zip maxs, p.1 ≤ p.2) :
    ∀ t ∈ (clamp mins maxs θ).zip (mins.zip maxs), t.2.1 ≤ t.1 ∧ t.1 ≤ t.2.2 := by
  induction θ generalizing mins maxs with
  | nil => intro t ht; simp [clamp] at ht
  | cons x θ ih =>
    match mins, maxs with
    | [], _ | _ :: _, [] => intro t ht; simp [clamp] at ht
    | lo :: mins, hi :: maxs =>
      intro t ht
      simp only [clamp, List.zip_cons_cons, List.map_cons, List.mem_cons] at ht
      rcases ht with rfl | ht
      · exact clamp1_within lo hi x (h (lo, hi) (by simp))
      · exact ih mins maxs (fun p hp => h p (by simp [hp])) t ht

theorem clamp_of_within (mins maxs θ : List ℝ) (hθ : ∀ t ∈ θ.zip (mins.zip maxs), t.2.1 ≤ t.1 ∧ t.1 ≤ t.2.2)
    (hl : θ.length ≤ (mins.zip maxs).length) : clamp mins maxs θ = θ := by
  rw [clamp, List.map_congr_left (g := Prod.fst) fun t ht => clamp1_of_within _ _ _ (hθ t ht).1 (hθ t ht).2,
    List.map_fst_zip hl]

theorem clamp_idem (mins maxs θ : List ℝ) (h : ∀ p ∈ mins.zip maxs, p.1 ≤ p.2) :
    clamp mins maxs (clamp mins maxs θ) = clamp mins maxs θ :=
  clamp_of_within mins maxs _ (clamp_within mins maxs θ h)
    (by rw [clamp, List.length_map, List.length_zip]; exact Nat.min_le_right _ _)

/-- a joint vector outside the limits is evaluated as if clamped -/
theorem FK_clamps (a : Arm ℝ) (θ : List ℝ) (h : ∀ p ∈ a.mins.zip a.maxs, p.1 ≤ p.2) :
    (fk a (clamp a.mins a.maxs θ)).eePos = (fk a θ).eePos ∧ (fk a (clamp a.mins a.maxs θ)).theta = (fk a θ).theta := by
  simp only [fk, clamp_idem a.mins a.maxs θ h, and_self]

/-- the reported tool pose is the pose of the stored joint vector under the product-of-exponentials
    formula with the *current* base and tool home -/
def ArmInv (a : Arm ℝ) : Prop := a.eePos = fkSpec a.base a.S0 a.Mloc a.theta

/-- side conditions of one call: bases are rigid; the joint vector that gets evaluated has no joint
    strictly inside the (0, 1e-6) cut-off band -/
def OpOK (a : Arm ℝ) : Op ℝ → Prop
  | .FK θ => IsRot a.base.R ∧ JointsOK a.S0 (clamp a.mins a.maxs θ)
  | .IK θ => IsRot a.base.R ∧ JointsOK a.S0 (clamp a.mins a.maxs θ)
  | .IKfree θ => IsRot a.base.R ∧ JointsOK a.S0 θ
  | .move B => IsRot B.R ∧ JointsOK a.S0 (clamp a.mins a.maxs a.theta)
  | .moveStationary B θ => IsRot B.R ∧ JointsOK a.S0 (clamp a.mins a.maxs θ)
  | .setHome _ => IsRot a.base.R ∧ JointsOK a.S0 (clamp a.mins a.maxs a.theta)
  | .restore => IsRot a.base.R ∧ JointsOK a.S0 (clamp a.mins a.maxs a.theta)
  | .randomPos θ => IsRot a.base.R ∧ JointsOK a.S0 (clamp a.mins a.maxs θ)

/-- **one call**: after FK, IK (either solver, whatever it answered), a base move (plain or stationary),
    a tool-frame change or a restore, the reported tool pose is base · ∏ exp · (current tool home) at the
    stored joint vector (which base and which home: `step_bookkeeping`). -/
theorem step_inv (a : Arm ℝ) (op : Op ℝ) (h : OpOK a op) : ArmInv (step a op) := by
  -- every operation ends in `fk` or `fkRaw` of the arm with its new base or tool home; unfolded, the claim is
  -- `fkin_stored_eq_spec` for that base, home and joint vector, which unification reads off the goal
  cases op <;> exact fkin_stored_eq_spec _ _ _ h.1 _ h.2

theorem step_bookkeeping (a : Arm ℝ) (op : Op ℝ) :
    (step a op).S0 = a.S0 ∧ (step a op).Morig = a.Morig ∧ (step a op).mins = a.mins ∧ (step a op).maxs = a.maxs ∧
    (step a op).base = (match op with | .move B => B | .moveStationary B _ => B | _ => a.base) ∧
    (step a op).Mloc = (match op with | .setHome D => a.Mloc * D | .restore => a.Morig | _ => a.Mloc) := by
  cases op <;> simp [step, fk, fkRaw]

def HistoryOK : Arm ℝ → List (Op ℝ) → Prop
  | _, [] => True
  | a, op :: ops => OpOK a op ∧ HistoryOK (step a op) ops

/-- **every history**: from an arm satisfying `ArmInv`, after any sequence of these calls the reported tool pose is
    still that of the stored joint vector -/
theorem history_inv (a : Arm ℝ) (ops : List (Op ℝ)) (h0 : ArmInv a) (h : HistoryOK a ops) : ArmInv (run a ops) := by
  induction ops generalizing a with
  | nil => exact h0
  | cons op ops ih => exact ih (step a op) (step_inv a op h.1) h.2

/-- arms created at any base pose start coherent -/
theorem new_inv (B M : T4 ℝ) (S0 : List (V6 ℝ)) (mins maxs zero : List ℝ) (hB : IsRot B.R)
    (hj : JointsOK S0 (clamp mins maxs zero)) : ArmInv (new B S0 M mins maxs zero) :=
  fkin_stored_eq_spec _ _ _ hB _ hj

end BR.C05
