/-
  C20 — disp shows every element it was given, in row-major order, rounded to the requested decimals.

  (Totality — "never raises" — is not a statement a total Lean function can make about Python; the model is total
   by construction and its agreement with the real function, character for character, on every kind of object is
   what harness/c20.py checks.  The theorems below are about what the rendered text contains.)
-/
import Mathlib.Tactic.Linarith
import BR.Model.Disp

namespace BR.C20
open BR.Disp

theorem roundHalfEven_cases (num den : Nat) :
    (roundHalfEven num den = num / den ∧ 2 * (num % den) ≤ den) ∨
    (roundHalfEven num den = num / den + 1 ∧ den ≤ 2 * (num % den)) := by
  by_cases h1 : 2 * (num % den) < den
  · exact Or.inl ⟨if_pos h1, h1.le⟩
  · by_cases h2 : den < 2 * (num % den)
    · exact Or.inr ⟨(if_neg h1).trans (if_pos h2), h2.le⟩
    · unfold roundHalfEven
      rw [if_neg h1]
      split_ifs
      · exact Or.inl ⟨rfl, not_lt.1 h2⟩
      · exact Or.inr ⟨rfl, not_lt.1 h1⟩

/-- nearest integer, in ℕ and without subtraction: the ℤ and ℚ statements below are casts of this one -/
theorem roundHalfEven_spec (num den : Nat) (hd : 0 < den) :
    2 * (roundHalfEven num den * den) ≤ 2 * num + den ∧
      2 * num ≤ 2 * (roundHalfEven num den * den) + den := by
  have hnum : num / den * den + num % den = num := Nat.div_add_mod' num den
  have hmod : num % den < den := Nat.mod_lt num hd
  rcases roundHalfEven_cases num den with ⟨e, h⟩ | ⟨e, h⟩ <;> rw [e]
  · omega
  · rw [Nat.add_mul]; omega

/-- **round-half-even returns a nearest integer**: 2·|n·den − num| ≤ den -/
theorem roundHalfEven_nearest (num den : Nat) (hd : 0 < den) :
    2 * ((roundHalfEven num den : Int) * den - num) ≤ den ∧ 2 * ((num : Int) - roundHalfEven num den * den) ≤ den := by
  obtain ⟨h1, h2⟩ := roundHalfEven_spec num den hd
  constructor <;> rw [mul_sub, sub_le_iff_le_add']
  · exact_mod_cast h1
  · exact_mod_cast h2

theorem abs_div_sub_div_le {n a d s : ℚ} (hd : 0 < d) (hs : 0 < s)
    (h1 : 2 * (n * d) ≤ 2 * (a * s) + d) (h2 : 2 * (a * s) ≤ 2 * (n * d) + d) :
    |n / s - a / d| ≤ 1 / (2 * s) := by
  -- clear denominators: times s·d > 0 the bound 1/(2s) becomes d/2 (`e`), and the two sides are `h2`, `h1`
  have e : 1 / (2 * s) * (s * d) = d / 2 := by
    rw [one_div_mul_eq_div, mul_comm 2 s, mul_div_mul_left _ _ hs.ne']
  rw [div_sub_div _ _ hs.ne' hd.ne', abs_le, le_div_iff₀ (mul_pos hs hd), div_le_iff₀ (mul_pos hs hd),
    neg_mul, e]
  constructor
  · linarith only [h2]
  · linarith only [h1]

/-- **a printed finite number is the element rounded to p decimals**: the integer the digits are produced from,
    divided by 10^p, is within half a unit in the last place of the exact value num/den -/
theorem scaled_error (num den p : Nat) (hd : 0 < den) :
    |((scaled num den p : ℚ) / 10 ^ p) - (num : ℚ) / den| ≤ 1 / (2 * 10 ^ p) := by
  obtain ⟨h1, h2⟩ := roundHalfEven_spec (num * 10 ^ p) den hd
  exact abs_div_sub_div_le (by exact_mod_cast hd) (by positivity) (by exact_mod_cast h1) (by exact_mod_cast h2)

/-- below 9999 the requested number of decimals is used unchanged and the field is nd + 6 wide -/
theorem cell_small (nd : Nat) (x : Num) (h : isBig x = false) : cell nd x = fmtFixed x (nd + 6) nd := by
  unfold cell decimalsFor
  simp [h]

/-! ### every element, in row-major order

  The lemmas carry no length hypothesis: a block renders the first `size` elements of what it is given
  (`data.take size`), and `cells_rowmajor` puts `data.length = prodList shape` in at the end. -/

theorem chunks_take (m n : Nat) (data : List Num) :
    (List.range n).flatMap (chunk data m) = data.take (n * m) := by
  induction n with
  | zero => simp
  | succ k ih =>
    rw [List.range_succ, List.flatMap_append, ih, Nat.succ_mul, List.take_add]
    simp [chunk]

/-- cutting a list of n·m elements into n consecutive chunks of m and concatenating gives the list back -/
theorem chunks_cover (m : Nat) : ∀ (n : Nat) (data : List Num), data.length = n * m →
    (List.range n).flatMap (chunk data m) = data := by
  intro n data h
  rw [chunks_take, List.take_of_length_le h.le]

theorem take_chunk (data : List Num) (m i : Nat) : (chunk data m i).take m = chunk data m i := by
  rw [chunk, List.take_take, Nat.min_self]

theorem cells_of_chunks {nd m n : Nat} {data : List Num} {f : Nat → List String}
    (hf : ∀ i, f i = (chunk data m i).map (cell nd)) :
    (List.range n).flatMap f = (data.take (n * m)).map (cell nd) := by
  rw [funext hf, ← List.map_flatMap, chunks_take]

theorem vecRow_cells (nd frame : Nat) (xs : List Num) : (vecRow nd frame xs).cells = xs.map (cell nd) := by
  unfold vecRow
  split <;> rfl

theorem rows2_cells (nd n m : Nat) (data : List Num) :
    (rows2 nd n m data).flatMap Line.cells = (data.take (n * m)).map (cell nd) := by
  rw [rows2, List.flatMap_map]
  exact cells_of_chunks fun _ => vecRow_cells ..

theorem flatMap_text_cells (ls : List Line) (s : String) : ([Line.text s] ++ ls).flatMap Line.cells = ls.flatMap Line.cells := by
  simp [Line.cells]

theorem framed_cells {nd m n : Nat} {data : List Num} {g : Nat → List Line} (a b : String)
    (hg : ∀ i, (g i).flatMap Line.cells = (chunk data m i).map (cell nd)) :
    ([Line.text a] ++ (List.range n).flatMap g ++ [Line.text b]).flatMap Line.cells =
      (data.take (n * m)).map (cell nd) := by
  rw [List.flatMap_append, flatMap_text_cells, List.flatMap_assoc, cells_of_chunks hg]
  exact List.append_nil _

theorem disp3_cells (nd k n m : Nat) (pdims : Bool) (data : List Num) (title : String) :
    (disp3 k n m data title nd pdims).flatMap Line.cells = (data.take (k * (n * m))).map (cell nd) := by
  refine framed_cells _ _ fun i => ?_
  rw [List.flatMap_append, rows2_cells, take_chunk]
  cases pdims <;> rfl

theorem cells_rowmajor_take (shape : List Nat) (data : List Num) (title : String) (nd : Nat) (pdims top : Bool)
    (hdims : 1 ≤ shape.length ∧ shape.length ≤ 4) :
    (dispaArr shape data title nd pdims top).flatMap Line.cells = (data.take (prodList shape)).map (cell nd) := by
  -- by the number of axes: 0, 1, 2, 3, 4, more (`match shape, hdims with` is slow to check: its matcher must exclude 0 and more)
  rcases shape with _ | ⟨j, _ | ⟨k, _ | ⟨n, _ | ⟨m, _ | _⟩⟩⟩⟩
  · cases hdims.1
  · simp [dispaArr, prodList, Line.cells]
  · rw [dispaArr]
    simp only [List.flatMap_append, rows2_cells, prodList]
    split <;> simp [Line.cells]
  · simp only [dispaArr, disp3_cells, prodList, Nat.mul_one]
  · simp only [prodList, Nat.mul_one]
    refine framed_cells _ _ fun i => ?_
    rw [disp3_cells, Nat.mul_assoc, take_chunk]
  · exact absurd ((Nat.le_add_left 5 _).trans hdims.2) (by decide)

/-- **the rendered text of a numeric array with 1 to 4 axes contains every element exactly once, in row-major order,
    each as the cell `cell nd x`** (for |x| < 9999 that is the element rounded half-even to nd decimals in a field of
    nd+6 characters: `cell_small`, `scaled_error`) — for every shape, including empty extents, every title, nd, pdims -/
theorem cells_rowmajor (shape : List Nat) (data : List Num) (title : String) (nd : Nat) (pdims top : Bool)
    (hdims : 1 ≤ shape.length ∧ shape.length ≤ 4) (hlen : data.length = prodList shape) :
    (dispaArr shape data title nd pdims top).flatMap Line.cells = data.map (cell nd) := by
  rw [cells_rowmajor_take shape data title nd pdims top hdims, List.take_of_length_le hlen.le]

/-- non-vacuity: the hypotheses of `cells_rowmajor` are met by a 2×2 matrix -/
example : (1 ≤ [2, 2].length ∧ [2, 2].length ≤ 4) ∧
    [Num.fin false 3 2, Num.fin true 1 10000, Num.fin false 5 2, Num.fin false 1 8].length = prodList [2, 2] := by decide

/- a worked instance, evaluated at build time (a test, not a theorem): what the model renders for that matrix -/
#guard flatten (dispaArr [2, 2] [Num.fin false 3 2, Num.fin true 1 10000, Num.fin false 5 2, Num.fin false 1 8] "xy" 2 true true) ==
    "╔═════ xy BEGIN ════╗\n╔     1.50,   -0.00 ╗\n╚     2.50,    0.12 ╝\n╚══════ xy END ═════╝\n"

end BR.C20
