/-
  C10 — "a verdict of 'valid' implies that every enabled constraint holds", for the REVERSED forward kinematics.

  FK(L, reverse=True) solves and validates with the bottom plate fixed, then re-expresses the result with the old top plate held
  fixed: both plates are moved by one rigid motion G (top ↦ saved top, bottom ↦ saved top · inv(relative pose)) through a public IK
  call whose own verdict is discarded; the verdict returned is the one obtained BEFORE the move.  It is still true of the state left
  behind, because every constraint the platform checks is a function of the relative plate pose and the plate-fixed joint
  coordinates only (theorem `allHold_rigid`, over ℝ, for rigid plate poses): the IK inside the re-expression finds every enabled
  constraint satisfied, takes no corrective action (`validate_noop`) and leaves exactly the moved state.
-/
import BR.Props.C10
import BR.Props.C09

namespace BR.C10R
open BR.SP BR.MR BR.Rot BR.C10

/-- `validate()` on a state that meets every enabled constraint: verdict true, no corrective action, no solver call
    (any scalar instance) -/
theorem validate_noop {α : Type} [Scalar α] (p : Par α) (s : St α) (o : List (Sol α)) (h : AllHold p s) :
    validate p s o = some (true, s, o) := by
  obtain ⟨h0, h1, h2, h3, h4⟩ := h
  unfold validate
  rw [vLegs_noop p s o _ h1]
  dsimp only
  rw [vStage_noop p _ contC 2 _ h2, vStage_noop p _ (intC p) 3 _ h3, vStage_noop p _ (rotC p) 4 _ h4, h0]
  rfl

/-- the constraints see a state only through the distance of the plate origins, the leg lengths, the relative pose (computed
    and stored), the joint angles and the switches -/
theorem allHold_congr {α : Type} [Scalar α] {p : Par α} {s s' : St α}
    (hd : norm3 (s'.Tb.p - s'.Tt.p) = norm3 (s.Tb.p - s.Tt.p)) (hl : s'.lens = s.lens)
    (hc : transInv s'.Tb * s'.Tt = transInv s.Tb * s.Tt) (hj : jointAngles s' = jointAngles s) (hr : s'.rel = s.rel)
    (e0 : s'.set0 = s.set0) (e1 : s'.set1 = s.set1) (e2 : s'.set2 = s.set2) (e3 : s'.set3 = s.set3)
    (h : AllHold p s) : AllHold p s' := by
  unfold AllHold distC legC contC intC rotC at *
  rw [hd, hl, hc, hj, hr, e0, e1, e2, e3]
  exact h

theorem rel_rigid (G Tb Tt : T4 ℝ) (hG : G.R.T * G.R = M3.one) : transInv (G * Tb) * (G * Tt) = transInv Tb * Tt := by
  rw [transInv_mul_rev G Tb hG, T4_mul_assoc, ← T4_mul_assoc (transInv G) G Tt, transInv_mul G hG, T4_one_mul]

theorem transInv_act_rigid (G A B : T4 ℝ) (hG : G.R.T * G.R = M3.one) (v : V3 ℝ) :
    (transInv (G * A)).act ((G * B).act v) = (transInv A).act (B.act v) := by
  rw [← T4.act_mul, ← T4.act_mul, rel_rigid G A B hG]

theorem zip3With_congr {β γ δ ε : Type} (f f' : β → γ → δ → ε) {κ : Type} (a a' : κ → β) (b b' : κ → γ)
    (hf : ∀ k h, f (a k) (b k) h = f' (a' k) (b' k) h) : ∀ (l : List κ) (H : List δ),
    zip3With f (l.map a) (l.map b) H = zip3With f' (l.map a') (l.map b') H
  | k :: ks, h :: hs => by
    show f (a k) (b k) h :: zip3With f _ _ hs = f' (a' k) (b' k) h :: zip3With f' _ _ hs
    rw [hf k h, zip3With_congr f f' a a' b b' hf ks hs]
  | [], _ | _ :: _, [] => rfl

theorem jointAngles_of_coh (s : St ℝ) (hs : Coh s) : jointAngles s =
    zip3With (fun b t h => angleBetween ((transInv s.Tb).act t) ((transInv s.Tb).act b) h)
      (s.legs.map fun l => s.Tb.act l.b) (s.legs.map fun l => s.Tt.act l.t) s.homeB ++
    zip3With (fun b t h => angleBetween ((transInv s.Tt).act b) ((transInv s.Tt).act t) h)
      (s.legs.map fun l => s.Tb.act l.b) (s.legs.map fun l => s.Tt.act l.t) s.homeT := by
  unfold jointAngles
  rw [hs.1, hs.2.1]
  rfl

theorem jointAngles_rigid (s : St ℝ) (G : T4 ℝ) (hs : Coh s) (hG : G.R.T * G.R = M3.one) :
    jointAngles (ikP s (G * s.Tt) (G * s.Tb)) = jointAngles s := by
  rw [jointAngles_of_coh _ (coh_ikP _ _ _), jointAngles_of_coh s hs]
  exact congrArg₂ (· ++ ·)
    (zip3With_congr _ _ _ _ _ _ (fun l h => by simp only [ikP_Tb, ikP_Tt, transInv_act_rigid G _ _ hG]) s.legs s.homeB)
    (zip3With_congr _ _ _ _ _ _ (fun l h => by simp only [ikP_Tb, ikP_Tt, transInv_act_rigid G _ _ hG]) s.legs s.homeT)

theorem allHold_isometry (p : Par ℝ) (s : St ℝ) (G : T4 ℝ) (hs : Coh s) (hG : G.R.T * G.R = M3.one)
    (h : AllHold p s) : AllHold p (ikP s (G * s.Tt) (G * s.Tb)) := by
  refine allHold_congr ?_ ?_ (rel_rigid G _ _ hG) (jointAngles_rigid s G hs hG) ?_ rfl rfl rfl rfl h
  · show norm3 (G.act s.Tb.p - G.act s.Tt.p) = _
    rw [T4.act_sub_act, norm3_orth _ hG]
  · exact (BR.C09.lengths_isometry G s.Tb s.Tt hG s.legs).trans ((BR.C09.ik_is_distance _ _ _).1.trans hs.2.2.1.symm)
  · exact (rel_rigid G _ _ hG).trans hs.2.2.2.symm

/-- every constraint of the platform is invariant under moving both plates by one rigid motion -/
theorem allHold_rigid (p : Par ℝ) (s : St ℝ) (G : T4 ℝ) (hs : Coh s) (hG : IsRot G.R) (hb : IsRot s.Tb.R)
    (h : AllHold p s) : AllHold p (ikP s (G * s.Tt) (G * s.Tb)) :=
  allHold_isometry p s G hs hG.1 h

/-- **the verdict of a reversed FK is sound**: if the state that was solved and validated (verdict true) has rigid plate poses and
    the saved top pose is rigid, the re-expression returns the same verdict, takes no corrective action, puts the top plate back
    where it was, keeps the relative pose — and every enabled constraint holds of the state it leaves -/
theorem fkReverse_sound (p : Par ℝ) (savedTop top : T4 ℝ) (s : St ℝ) (o : List (Sol ℝ)) (hs : Coh s) (hA : AllHold p s)
    (hb : IsRot s.Tb.R) (ht : IsRot s.Tt.R) (hS : IsRot savedTop.R) :
    ∃ s', fkReverse p savedTop top true s o = some (top, true, s', o) ∧ AllHold p s' ∧ s'.Tt = savedTop ∧ s'.rel = s.rel ∧ Coh s' := by
  have crel := hs.2.2.2
  -- the rigid motion that carries the top plate to the saved pose; the inner IK is called on `s` moved by it
  set G := savedTop * transInv s.Tt with hGdef
  have hG : IsRot G.R := isRot_mul hS (isRot_T ht)
  have e1 : G * s.Tt = savedTop := by
    rw [hGdef, T4_mul_assoc, transInv_mul _ ht.1, T4_mul_one]
  -- `s.rel = inv(Tb) · Tt`, so `inv(s.rel) = inv(Tt) · Tb`
  have e2 : savedTop * transInv s.rel = G * s.Tb := by
    rw [crel, transInv_mul_rev (transInv s.Tb) s.Tt (isRot_T hb).1, transInv_transInv s.Tb (isRot_inv hb).1, hGdef,
      T4_mul_assoc]
  have hAll := allHold_rigid p s G hs hG hb hA
  refine ⟨ikP s (G * s.Tt) (G * s.Tb), ?_, hAll, e1, (rel_rigid G _ _ hG.1).trans crel.symm, coh_ikP _ _ _⟩
  unfold fkReverse ik
  rw [e2, ← e1, validate_noop p _ o hAll]

theorem fkReverse_verdict (p : Par ℝ) (savedTop top : T4 ℝ) (v : Bool) (s : St ℝ) (o : List (Sol ℝ))
    {t' : T4 ℝ} {v' : Bool} {s' : St ℝ} {o' : List (Sol ℝ)} (h : fkReverse p savedTop top v s o = some (t', v', s', o')) : v' = v := by
  unfold fkReverse at h
  split at h
  · simp at h
  · simp only [Option.some.injEq, Prod.mk.injEq] at h
    exact h.2.1.symm

/-- **a reversed, unprotected FK that reports 'valid' leaves a state in which every enabled constraint holds**, provided the plate
    poses it solved for are rigid transforms (hypothesis `hrig`: the solver oracles return six-vectors, which the platform turns into
    rigid transforms; the pose an upside-down repair arrives at is an oracle whose rigidity is assumed here and observed on the
    implementation) and the top pose it started from is rigid -/
theorem fk_reverse_sound (p : Par ℝ) (s : St ℝ) (L : List ℝ) (o : List (Sol ℝ)) (hS : IsRot s.Tt.R)
    (hrig : ∀ top1 s1 o1 v s2 o2, fkCore p s L o false = some (top1, s1, o1) → validate p s1 o1 = some (v, s2, o2) →
      IsRot s2.Tb.R ∧ IsRot s2.Tt.R)
    {top : T4 ℝ} {s' : St ℝ} {o' : List (Sol ℝ)} (h : fk p s L true false o = some (top, true, s', o')) :
    AllHold p s' ∧ s'.Tt = s.Tt := by
  rw [fk, fkAt_eq] at h
  obtain ⟨⟨top1, s1, o1⟩, hc, h⟩ := Option.bind_eq_some_iff.1 h
  obtain ⟨⟨v2, s2, o2⟩, hv, h⟩ := Option.bind_eq_some_iff.1 h
  dsimp only at hc hv h
  obtain rfl : v2 = true := (fkReverse_verdict p _ _ _ _ _ h).symm
  have h2 := validate_coh p s1 o1 (fkCore_coh p s L o false hc) hv
  obtain ⟨hb, ht⟩ := hrig _ _ _ _ _ _ hc hv
  obtain ⟨s'', e, hAll, hTt, _, _⟩ := fkReverse_sound p s.Tt top1 s2 o2 h2 (validate_sound p s1 o1 hv) hb ht hS
  rw [e] at h
  cases h
  exact ⟨hAll, hTt⟩

noncomputable def I4 : T4 ℝ := ⟨⟨1, 0, 0, 0, 1, 0, 0, 0, 1⟩, ⟨0, 0, 0⟩⟩
noncomputable def Up : T4 ℝ := ⟨⟨1, 0, 0, 0, 1, 0, 0, 0, 1⟩, ⟨0, 0, 1⟩⟩
noncomputable def s0 : St ℝ :=
  { legs := [], homeB := [], homeT := [], Tb := I4, Tt := Up, bs := [], ts := [], lens := [],
    rel := transInv I4 * Up, set0 := true, set1 := true, set2 := true, set3 := true, fkMode := 1, repaired := false }
noncomputable def p0 : Par ℝ := { lmin := 1, lmax := 2, safety := 0, nominalH := 1, rotLimit := 0, deflMax := 1 }

/-- non-vacuity: a concrete coherent state … -/
example : Coh s0 := by
  unfold Coh s0; simp

theorem I4_eq : I4 = T4.one := by
  simp only [I4, T4.one, M3.one, V3.zero, ofNat_real_one, ofNat_real_zero]

theorem s0_rel : transInv I4 * Up = Up := by
  rw [I4_eq, ← T4_mul_one (transInv T4.one), transInv_mul T4.one isRot_one.1, T4_one_mul]

/-- … meeting every enabled constraint, with rigid plates: the hypotheses of `fkReverse_sound` are satisfiable -/
example : AllHold p0 s0 := by
  have hd : norm3 (s0.Tb.p - s0.Tt.p) = 1 :=
    norm3_eq_of_sq _ 1 zero_le_one (by show (0 - 0 : ℝ) ^ 2 + (0 - 0) ^ 2 + (0 - 1) ^ 2 = 1 ^ 2; norm_num)
  -- no legs: the length and joint-angle constraints hold of empty lists
  refine ⟨?_, fun _ => rfl, fun _ => ?_, fun _ => rfl, fun _ => ?_⟩
  · unfold distC
    simp only [decide_eq_false_iff_not, hd, p0]
    norm_num
  · unfold contC
    simp only [Bool.not_eq_true', decide_eq_false_iff_not, not_lt, show transInv s0.Tb * s0.Tt = Up from s0_rel, Up,
      ofNat_real_zero]
    norm_num
  · unfold rotC
    simp only [Bool.not_eq_true', Bool.or_eq_false_iff, decide_eq_false_iff_not, not_le, show s0.rel = Up from s0_rel, Up, p0,
      sci_real]
    norm_num

end BR.C10R
