/-
  C04 — transform algebra is the SE(3) group; every constructor form means the same pose.
  Property theorems about BR/Model/Tm.lean at ℝ.
-/
import BR.Props.C03

namespace BR.C04
open BR.MR BR.Rot BR.TmModel BR.C03

/-- composing with `@` is multiplying the homogeneous matrices -/
theorem matmul_is_mul (a b : Tm ℝ) : (matmul a b).TM = a.TM * b.TM := rfl

theorem matmul_assoc (a b c : Tm ℝ) : (matmul (matmul a b) c).TM = (matmul a (matmul b c)).TM := by
  simp only [matmul_is_mul, T4_mul_assoc]

/-- `inv()` is the group inverse (two-sided) -/
theorem inv_is_group_inv (a : Tm ℝ) (h : WF a) :
    (ofTM (transInv a.TM)).TM * a.TM = T4.one ∧ a.TM * (ofTM (transInv a.TM)).TM = T4.one :=
  ⟨Rot.transInv_mul a.TM h.1, Rot.mul_transInv a.TM (isRot_inv h).1⟩

theorem transInv_mul_rev (A B : T4 ℝ) (hA : IsRot A.R) (hB : IsRot B.R) :
    transInv (A * B) = transInv B * transInv A :=
  Rot.transInv_mul_rev A B hA.1

theorem transInv_transInv (A : T4 ℝ) (hA : IsRot A.R) : transInv (transInv A) = A :=
  Rot.transInv_transInv A (isRot_inv hA).1

/-- on transform objects: `(a @ b).inv()` and `b.inv() @ a.inv()` have the same matrix; `a.inv().inv()` is `a` -/
theorem inv_matmul (a b : Tm ℝ) (ha : WF a) (hb : WF b) :
    transInv (matmul a b).TM = transInv b.TM * transInv a.TM ∧ transInv (transInv a.TM) = a.TM :=
  ⟨transInv_mul_rev a.TM b.TM ha hb, transInv_transInv _ ha⟩

/-- localToGlobal(ref, rel) = ref · rel -/
theorem localToGlobal_eq (a b : Tm ℝ) (ha : Coherent a) (hb : Coherent b) (hwa : WF a) (hwb : WF b)
    (hA : AngleOK (a.TM * b.TM).R) :
    (ofTAA (localToGlobalTAA a.TAA b.TAA)).TM = a.TM * b.TM := by
  rw [localToGlobalTAA_eq, ← ha, ← hb]
  exact write_tm_read_taa _ (isRot_mul hwa hwb) hA

/-- globalToLocal(ref, x) = inv(ref) · x -/
theorem globalToLocal_eq (a b : Tm ℝ) (ha : Coherent a) (hb : Coherent b) (hwa : WF a) (hwb : WF b)
    (hA : AngleOK (transInv a.TM * b.TM).R) :
    (ofTAA (globalToLocalTAA a.TAA b.TAA)).TM = transInv a.TM * b.TM := by
  rw [globalToLocalTAA_eq, ← ha, ← hb]
  exact write_tm_read_taa _ (isRot_mul (isRot_T hwa) hwb) hA

/-- the two conversions are mutual inverses at the level of matrices: inv(A)·(A·B) = B and A·(inv(A)·B) = B -/
theorem l2g_g2l_inverse (A B : T4 ℝ) (h : IsRot A.R) :
    transInv A * (A * B) = B ∧ A * (transInv A * B) = B :=
  ⟨transInv_mul_cancel_left h B, mul_transInv_cancel_left h B⟩

/-- list / array of six numbers: position and rotation vector as given -/
theorem ctor6_plain (v : V6 ℝ) : (ctor6 v false).TM = ⟨matrixExp3 (hat v.b), v.a⟩ := rfl

/-- the elementary rotations the rpy flag composes -/
noncomputable def Rx (r : ℝ) : M3 ℝ := matrixExp3 (hat ⟨r, 0, 0⟩)
noncomputable def Ry (p : ℝ) : M3 ℝ := matrixExp3 (hat ⟨0, p, 0⟩)
noncomputable def Rz (y : ℝ) : M3 ℝ := matrixExp3 (hat ⟨0, 0, y⟩)

theorem rpyTm_TM (r : V3 ℝ) : (rpyTm r).TM.R = Rx r.x * Ry r.y * Rz r.z := by
  simp only [rpyTm, matmul, ofTM, ofTAA, taaToTM, T4.mul_def, T4.mul, Rx, Ry, Rz, ofNat_real_zero]

/-- **rpy flag**: the rotation is Rx(roll)·Ry(pitch)·Rz(yaw), the position is as given -/
theorem ctor_rpy (v : V6 ℝ) (hA : AngleOK (Rx v.b.x * Ry v.b.y * Rz v.b.z)) :
    (ctor6 v true).TM = ⟨Rx v.b.x * Ry v.b.y * Rz v.b.z, v.a⟩ := by
  have hrot : IsRot (Rx v.b.x * Ry v.b.y * Rz v.b.z) :=
    isRot_mul (isRot_mul (exp3_isRot _) (exp3_isRot _)) (exp3_isRot _)
  have h1 : (rpyTm v.b).TAA.b = vee (matrixLog3 (Rx v.b.x * Ry v.b.y * Rz v.b.z)) := by
    rw [← rpyTm_TM]; rfl
  simp only [ctor6, if_true, ofTAA, taaToTM]
  rw [h1, hat_vee_log3, exp3_log3 _ hrot hA]

/-- nested [position, rotation] pair = the six-number form -/
theorem ctor_pair (p r : V3 ℝ) (rpy : Bool) (s : List (Tm ℝ)) :
    result s (Op.ctorPair p r rpy) = ctor6 ⟨p, r⟩ rpy := rfl

/-- 4×4 matrix form: the matrix is stored as given -/
theorem ctor_matrix (T : T4 ℝ) : (ofTM T).TM = T := rfl

/-- position + quaternion form -/
theorem ctor_quat (p : V3 ℝ) (x y z w : ℝ) : (ctor7 p x y z w).TM = ⟨quatToRot x y z w, p⟩ := rfl

/-- another transform / one-element array of a transform: same matrix -/
theorem ctor_tm (s : List (Tm ℝ)) (i : Nat) :
    (result s (Op.ctorCopy i)).TM = (getD s i).TM ∧ (result s (Op.ctorCopyArr i)).TM = (getD s i).TM :=
  ⟨rfl, rfl⟩

/-- reading then setting the quaternion is the identity on the matrix, for any reader that
    returns a quaternion of the current rotation (the contract assumed of scipy's
    `Rotation.from_matrix(..).as_quat()`; checked on the implementation by the harness) -/
theorem setQuat_getQuat_id (t : Tm ℝ) (x y z w : ℝ) (hq : quatToRot x y z w = t.TM.R) :
    (setQuat t x y z w).TM = t.TM := by
  simp only [setQuat, ofTM, hq]

/-- the quaternion form is insensitive to the scale and the sign of the quaternion (scipy normalises first; q and −q
    are the same rotation): equivalent quaternion descriptions of one pose give the same matrix -/
theorem quatToRot_smul (k x y z w : ℝ) (hk : k ≠ 0) :
    quatToRot (k * x) (k * y) (k * z) (k * w) = quatToRot x y z w := by
  obtain ⟨n, hn⟩ : ∃ n, Real.sqrt (x * x + y * y + z * z + w * w) = n := ⟨_, rfl⟩
  have hs : Real.sqrt (k * x * (k * x) + k * y * (k * y) + k * z * (k * z) + k * w * (k * w)) = |k| * n := by
    rw [← hn, ← Real.sqrt_mul_self (abs_nonneg k), ← Real.sqrt_mul (mul_self_nonneg _), abs_mul_abs_self]
    congr 1; ring
  -- the normalised quaternion changes by the sign k/|k| only, and the matrix is even in it
  rw [quatToRot_eq _ _ _ _ _ hs, quatToRot_eq _ _ _ _ _ hn]
  simp only [mul_div_mul_comm]
  rw [quatMat_smul, div_mul_div_comm, abs_mul_abs_self, div_self (mul_self_ne_zero.mpr hk), one_smul]

theorem quatToRot_neg (x y z w : ℝ) : quatToRot (-x) (-y) (-z) (-w) = quatToRot x y z w := by
  have := quatToRot_smul (-1) x y z w (by norm_num)
  simpa using this

theorem ctor_quat_scale (p : V3 ℝ) (k x y z w : ℝ) (hk : k ≠ 0) :
    (ctor7 p (k * x) (k * y) (k * z) (k * w)).TM = (ctor7 p x y z w).TM := by
  rw [ctor_quat, ctor_quat, quatToRot_smul k x y z w hk]

end BR.C04
