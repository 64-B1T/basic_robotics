/-
  C06 (body-frame clause) — the body Jacobian the library computes from the body screws B_i = Ad(M⁻¹) S_i is the space
  Jacobian seen from the tool frame:  J_b(θ) e_i = Ad(FK(θ)⁻¹) · J_s(θ) e_i,  for chains of any length.
  Every joint must be "exact" at its angle: prismatic, at angle 0, or with unit axis and |θ| at least the 1e-6 cut-off
  (inside the band the library's exponential is a pure translation and the identities hold only to 1e-6).
  The proofs use of a joint only that its scaled screw θ·S is outside the band (`JointOK`, the hypothesis of `exp6_conj`);
  the lemmas and the two main theorems are stated for such chains (`…_of_ok`) and specialised to exact joints at the end.
-/
import BR.Props.C06Deriv

namespace BR.C06B
open BR.MR BR.Rot BR.C06 BR.C06D

noncomputable instance : Monoid (T4 ℝ) where
  mul := (· * ·)
  one := T4.one
  mul_assoc := T4_mul_assoc
  one_mul := T4_one_mul
  mul_one := T4_mul_one

theorem T4.one_eq : (T4.one : T4 ℝ) = 1 := rfl

/-! ### one joint: inverse of its exponential, and its own screw is fixed by its adjoint

  Both hold whenever the scaled screw θ·S is outside the exponential's cut-off band (`JointOK`). -/

theorem jointExp_zero (S : V6 ℝ) : jointExp S 0 = 1 := by
  show matrixExp6 (hat6 ((0 : ℝ) • S)) = T4.one
  rw [zero_smul, exp6_translating 0 nearZero_norm3_zero]
  rfl

theorem jointExp_neg_mul_of_ok {S : V6 ℝ} {θ : ℝ} (h : JointOK (S, θ)) : jointExp S (-θ) * jointExp S θ = 1 := by
  have := exp6_neg_mul (θ • S) h
  rwa [← neg_smul] at this

theorem jointExp_mul_neg_of_ok {S : V6 ℝ} {θ : ℝ} (h : JointOK (S, θ)) : jointExp S θ * jointExp S (-θ) = 1 := by
  have := jointExp_neg_mul_of_ok h.neg
  rwa [neg_neg] at this

theorem adjoint_jointExp_self_of_ok {S : V6 ℝ} {θ : ℝ} (h : JointOK (S, θ)) : (adjoint (jointExp S θ)).mulVec S = S := by
  by_cases hθ : θ = 0
  · rw [hθ, jointExp_zero, ← T4.one_eq, adjoint_one_mulVec]
  · -- Ad(E)(θ S) = θ S, and θ ≠ 0
    have := congrArg (θ⁻¹ • ·) (adjoint_exp6_self (θ • S) h)
    simp only [M6.mulVec_smul, smul_smul, inv_mul_cancel₀ hθ, one_smul] at this
    exact this

/-- a joint is exact at its angle: prismatic, at angle 0, or unit axis turned by at least the cut-off -/
def JointExact (S : V6 ℝ) (θ : ℝ) : Prop := S.a = ⟨0, 0, 0⟩ ∨ θ = 0 ∨ (norm3 S.a = 1 ∧ (1e-6 : ℝ) ≤ |θ|)

theorem JointExact.ok {S : V6 ℝ} {θ : ℝ} (h : JointExact S θ) : JointOK (S, θ) := by
  show θ • S.a = 0 ∨ (1e-6 : ℝ) ≤ norm3 (θ • S.a)
  -- the first two cases are the two ways for θ • S.a to vanish
  rcases h with h | h | ⟨h1, h2⟩
  · exact Or.inl (smul_eq_zero.2 (Or.inr (h.trans V3.mk_zero)))
  · exact Or.inl (smul_eq_zero.2 (Or.inl h))
  · right; rw [norm3_smul_unit h1]; exact h2

/-- **e^{-[S]θ} · e^{[S]θ} = I** for the library's exponential at an exact joint -/
theorem jointExp_neg_mul (S : V6 ℝ) (θ : ℝ) (h : JointExact S θ) : jointExp S (-θ) * jointExp S θ = 1 :=
  jointExp_neg_mul_of_ok h.ok

/-- **Ad(e^{[S]θ}) S = S**: a joint's screw is invariant under its own motion -/
theorem adjoint_jointExp_self (S : V6 ℝ) (θ : ℝ) (h : JointExact S θ) : (adjoint (jointExp S θ)).mulVec S = S :=
  adjoint_jointExp_self_of_ok h.ok

/-! ### suffix products and the structure of `JacobianBody` -/

/-- inverse of the product of the exponentials of a list of joints: e^{-[S_k]θ_k} ⋯ e^{-[S_1]θ_1} -/
noncomputable def sufInv : List (V6 ℝ × ℝ) → T4 ℝ
  | [] => 1
  | (S, θ) :: rest => sufInv rest * jointExp S (-θ)

theorem sufInv_isRot : ∀ l : List (V6 ℝ × ℝ), IsRot (sufInv l).R
  | [] => isRot_one
  | (_, _) :: l => isRot_mul (sufInv_isRot l) (exp6_isRot _)

theorem fk_mul_sufInv (M : T4 ℝ) (hM : IsRot M.R) (l : List (V6 ℝ × ℝ)) (h : ∀ j ∈ l, JointOK j) :
    fkinSpace M l * (transInv M * sufInv l) = 1 := by
  induction l with
  | nil => exact mul_transInv_cancel_left hM 1
  | cons j l ih =>
    obtain ⟨S, θ⟩ := j
    obtain ⟨hj, hl⟩ := List.forall_mem_cons.mp h
    calc jointExp S θ * fkinSpace M l * (transInv M * (sufInv l * jointExp S (-θ)))
        = jointExp S θ * (fkinSpace M l * (transInv M * sufInv l)) * jointExp S (-θ) := by simp only [mul_assoc]
      _ = 1 := by rw [ih hl, mul_one]; exact jointExp_mul_neg_of_ok hj

/-- the body screw of a joint: its space screw seen from the home tool frame -/
noncomputable def bodyOf (M : T4 ℝ) (j : V6 ℝ × ℝ) : V6 ℝ × ℝ := ((adjoint (transInv M)).mulVec j.1, j.2)

theorem bodyExp (M : T4 ℝ) (hM : IsRot M.R) {S : V6 ℝ} {θ : ℝ} (h : JointOK (S, θ)) :
    jointExp ((adjoint (transInv M)).mulVec S) θ = transInv M * jointExp S θ * M := by
  unfold jointExp
  rw [V6.smul_eq, V6.smul_eq, ← M6.mulVec_smul, exp6_conj (transInv M) (transInv_isRot hM) (θ • S) h,
    transInv_transInv M (isRot_inv hM).1]

/-- the transform `JacobianBody` has accumulated when it reaches a joint: the inverse of the product of the joints
    after it -/
theorem jacobianBodyAux_fst (j : V6 ℝ × ℝ) (tail : List (V6 ℝ × ℝ)) : (jacobianBodyAux (j :: tail)).1 = sufInv tail := by
  induction tail generalizing j with
  | nil => rfl
  | cons j' rest ih =>
    show (jacobianBodyAux (j' :: rest)).1 * jointExp j'.1 (-j'.2) = sufInv rest * jointExp j'.1 (-j'.2)
    rw [ih]

/-- **column i of the body Jacobian is Ad(e^{-[B_n]θ_n} ⋯ e^{-[B_{i+1}]θ_{i+1}}) B_i**, for every chain -/
theorem jacobianBody_cons (j : V6 ℝ × ℝ) (tail : List (V6 ℝ × ℝ)) :
    jacobianBody (j :: tail) = (adjoint (sufInv tail)).mulVec j.1 :: jacobianBody tail := by
  cases tail with
  | nil =>
    show [j.1] = [(adjoint T4.one).mulVec j.1]
    rw [adjoint_one_mulVec]
  | cons j' rest =>
    show (adjoint ((jacobianBodyAux (j' :: rest)).1 * jointExp j'.1 (-j'.2))).mulVec j.1 :: (jacobianBodyAux (j' :: rest)).2 = _
    rw [jacobianBodyAux_fst]
    rfl

theorem sufInv_map_bodyOf (M : T4 ℝ) (hM : IsRot M.R) (l : List (V6 ℝ × ℝ)) (h : ∀ j ∈ l, JointOK j) :
    sufInv (l.map (bodyOf M)) = transInv M * sufInv l * M := by
  induction l with
  | nil =>
    show (1 : T4 ℝ) = transInv M * 1 * M
    rw [mul_one, transInv_mul M hM.1, T4.one_eq]
  | cons j l ih =>
    obtain ⟨S, θ⟩ := j
    obtain ⟨hj, hl⟩ := List.forall_mem_cons.mp h
    show sufInv (l.map (bodyOf M)) * jointExp ((adjoint (transInv M)).mulVec S) (-θ) =
      transInv M * (sufInv l * jointExp S (-θ)) * M
    rw [ih hl, bodyExp M hM hj.neg]
    simp only [mul_assoc, mul_transInv_cancel_left hM]

/-- the columns `JacobianBody` computes from the body screws of the home pose M, written with the space screws -/
noncomputable def bodyCols (M : T4 ℝ) : List (V6 ℝ × ℝ) → List (V6 ℝ)
  | [] => []
  | j :: tail => (adjoint (transInv M * sufInv tail)).mulVec j.1 :: bodyCols M tail

theorem bodyCols_get (M : T4 ℝ) (l : List (V6 ℝ × ℝ)) (i : Nat) (hi : i < l.length) :
    (bodyCols M l)[i]? = some ((adjoint (transInv M * sufInv (l.drop (i + 1)))).mulVec (l[i]).1) := by
  -- `bodyCols`, `[·]?`, `[·]` and `drop` step down the list together, by definition
  induction l generalizing i with
  | nil => exact absurd hi (Nat.not_lt_zero _)
  | cons j l ih =>
    cases i with
    | zero => rfl
    | succ k => exact ih k (Nat.lt_of_succ_lt_succ hi)

theorem jacobianBody_cols_of_ok (M : T4 ℝ) (hM : IsRot M.R) (joints : List (V6 ℝ × ℝ)) (hok : ∀ j ∈ joints, JointOK j) :
    jacobianBody (joints.map (bodyOf M)) = bodyCols M joints := by
  induction joints with
  | nil => rfl
  | cons j tail ih =>
    obtain ⟨-, htail⟩ := List.forall_mem_cons.mp hok
    have hA : IsRot (transInv M * sufInv tail * M).R :=
      isRot_mul (isRot_mul (transInv_isRot hM) (sufInv_isRot tail)) hM
    -- Ad(M⁻¹ X M) Ad(M⁻¹) S = Ad(M⁻¹ X) S
    rw [List.map_cons, jacobianBody_cons, ih htail, sufInv_map_bodyOf M hM tail htail, bodyCols, bodyOf,
      ← adjoint_mul_mulVec _ _ hA, mul_transInv_cancel_right hM]

theorem cancel_suffix {T P E E' F Z : T4 ℝ} (hT : T = P * (E * F)) (hF : F * Z = 1) (hE : E * E' = 1) :
    T * (Z * E') = P := by
  rw [hT, mul_assoc, mul_assoc, ← mul_assoc F, hF, one_mul, hE, mul_one]

/-- the body/space relation for every chain whose joints are outside the cut-off band (no unit axes needed) -/
theorem jacobianBody_eq_of_ok (M : T4 ℝ) (hM : IsRot M.R) (joints : List (V6 ℝ × ℝ)) (hok : ∀ j ∈ joints, JointOK j)
    (i : Nat) (hi : i < joints.length) :
    (jacobianBody (joints.map (bodyOf M)))[i]? =
      some ((adjoint (transInv (fkinSpace M joints))).mulVec ((adjoint (prefixProd T4.one joints i)).mulVec (joints[i]).1)) := by
  rw [jacobianBody_cols_of_ok M hM joints hok, bodyCols_get M joints i hi]
  congr 1
  have hex : JointOK ((joints[i]).1, (joints[i]).2) := hok _ (List.getElem_mem hi)
  have hTR := fkinSpace_isRot M hM joints
  -- with T = FK, P the prefix product, E_i the exponential of joint i and `rest` the joints after it:
  -- T = P · (E_i · FK(rest)) and FK(rest) · (M⁻¹ · sufInv rest) = 1, so T · (M⁻¹ · sufInv rest · E_i(−θ)) = P
  have hTZ := cancel_suffix (fk_split_self M joints i hi)
    (fk_mul_sufInv M hM _ fun j hj => hok j (List.mem_of_mem_drop hj)) (jointExp_mul_neg_of_ok hex)
  have hMS : IsRot (transInv M * sufInv (joints.drop (i + 1))).R := isRot_mul (transInv_isRot hM) (sufInv_isRot _)
  -- Ad(T⁻¹) Ad(P) S = Ad(T⁻¹ P) S = Ad(M⁻¹ · sufInv rest · e^{−θS}) S, and e^{−θS} fixes its own screw
  rw [← adjoint_mul_mulVec _ _ (transInv_isRot hTR), ← hTZ, transInv_mul_cancel_left hTR, adjoint_mul_mulVec _ _ hMS,
    adjoint_jointExp_self_of_ok hex.neg]

def AllExact (l : List (V6 ℝ × ℝ)) : Prop := ∀ j ∈ l, JointExact j.1 j.2

theorem AllExact.ok {l : List (V6 ℝ × ℝ)} (h : AllExact l) : ∀ j ∈ l, JointOK j := fun j hj => (h j hj).ok

theorem jacobianBody_cols (M : T4 ℝ) (hM : IsRot M.R) (joints : List (V6 ℝ × ℝ)) (hall : AllExact joints) :
    jacobianBody (joints.map (bodyOf M)) = bodyCols M joints :=
  jacobianBody_cols_of_ok M hM joints hall.ok

/-- **the body Jacobian is the space Jacobian seen from the tool frame**: for the body screws B_k = Ad(M⁻¹) S_k the library's
    JacobianBody column i equals Ad(FK(θ)⁻¹) applied to column i of JacobianSpace (`jacobianSpace_col`), for chains of any
    length and every configuration whose joints are exact -/
theorem jacobianBody_eq (M : T4 ℝ) (hM : IsRot M.R) (joints : List (V6 ℝ × ℝ)) (hall : AllExact joints)
    (i : Nat) (hi : i < joints.length) :
    (jacobianBody (joints.map (bodyOf M)))[i]? =
      some ((adjoint (transInv (fkinSpace M joints))).mulVec ((adjoint (prefixProd T4.one joints i)).mulVec (joints[i]).1)) :=
  jacobianBody_eq_of_ok M hM joints hall.ok i hi

/-- non-vacuity: a two-joint chain (unit z axis turned by 1, prismatic along x) is exact -/
example : AllExact [((⟨⟨0, 0, 1⟩, ⟨0, 0, 0⟩⟩ : V6 ℝ), (1 : ℝ)), (⟨⟨0, 0, 0⟩, ⟨1, 0, 0⟩⟩, 0.3)] := by
  intro j hj
  simp only [List.mem_cons, List.mem_nil_iff, or_false] at hj
  rcases hj with rfl | rfl
  · right; right
    exact ⟨norm3_eq_of_sq _ 1 (by norm_num) (by norm_num), by rw [abs_one]; norm_num⟩
  · left; rfl

end BR.C06B
