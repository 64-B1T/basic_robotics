/-
  C06 (derivative clause) — the space Jacobian's column i is the derivative of forward kinematics with respect to
  joint angle i, as a spatial twist:  d/dθ_i FK(θ) = [J_s(θ) e_i] · FK(θ).
  Derivatives of T4-valued functions are taken entry by entry (`HasDerivT4`).
  The statement holds where the joint's own exponential is the closed form, i.e. outside the library's 1e-6 cut-off
  (|θ_i| > 1e-6 for a revolute joint; everywhere for a prismatic one) — inside the band the code's exponential is the
  translation by θ_i·v_i, whose derivative is not [S_i] times it.
-/
import Mathlib.Analysis.SpecialFunctions.Trigonometric.Deriv
import BR.Props.C06

namespace BR.C06D
open BR.MR BR.Rot BR.C06

def HasDerivM3 (f : ℝ → M3 ℝ) (f' : M3 ℝ) (t : ℝ) : Prop :=
  HasDerivAt (fun s => (f s).a11) f'.a11 t ∧
  HasDerivAt (fun s => (f s).a12) f'.a12 t ∧
  HasDerivAt (fun s => (f s).a13) f'.a13 t ∧
  HasDerivAt (fun s => (f s).a21) f'.a21 t ∧
  HasDerivAt (fun s => (f s).a22) f'.a22 t ∧
  HasDerivAt (fun s => (f s).a23) f'.a23 t ∧
  HasDerivAt (fun s => (f s).a31) f'.a31 t ∧
  HasDerivAt (fun s => (f s).a32) f'.a32 t ∧
  HasDerivAt (fun s => (f s).a33) f'.a33 t

def HasDerivV3 (f : ℝ → V3 ℝ) (f' : V3 ℝ) (t : ℝ) : Prop :=
  HasDerivAt (fun s => (f s).x) f'.x t ∧ HasDerivAt (fun s => (f s).y) f'.y t ∧ HasDerivAt (fun s => (f s).z) f'.z t

/-- entrywise derivative of a homogeneous-matrix-valued function; the derivative is a 4×4 with bottom row 0,
    carried as a `T4` (rotation block, translation column) -/
def HasDerivT4 (f : ℝ → T4 ℝ) (f' : T4 ℝ) (t : ℝ) : Prop :=
  HasDerivM3 (fun s => (f s).R) f'.R t ∧ HasDerivV3 (fun s => (f s).p) f'.p t

/-- (bottom-row-0 matrix) · (rigid transform) -/
noncomputable def tg (X T : T4 ℝ) : T4 ℝ := ⟨X.R * T.R, X.R.mulVec T.p + X.p⟩
/-- (rigid transform) · (bottom-row-0 matrix) -/
noncomputable def gt (T X : T4 ℝ) : T4 ℝ := ⟨T.R * X.R, T.R.mulVec X.p⟩


theorem tg_eq_mul (X T : T4 ℝ) : tg X T = X * T := rfl

/-! ### entrywise derivatives: sums, scalar coefficients, constant factors -/

theorem HasDerivM3.add {F G : ℝ → M3 ℝ} {F' G' : M3 ℝ} {t : ℝ} (hF : HasDerivM3 F F' t) (hG : HasDerivM3 G G' t) :
    HasDerivM3 (fun s => F s + G s) (F' + G') t :=
  ⟨hF.1.add hG.1, hF.2.1.add hG.2.1, hF.2.2.1.add hG.2.2.1, hF.2.2.2.1.add hG.2.2.2.1, hF.2.2.2.2.1.add hG.2.2.2.2.1,
   hF.2.2.2.2.2.1.add hG.2.2.2.2.2.1, hF.2.2.2.2.2.2.1.add hG.2.2.2.2.2.2.1, hF.2.2.2.2.2.2.2.1.add hG.2.2.2.2.2.2.2.1,
   hF.2.2.2.2.2.2.2.2.add hG.2.2.2.2.2.2.2.2⟩

theorem HasDerivM3.smul_const {f : ℝ → ℝ} {f' t : ℝ} (hf : HasDerivAt f f' t) (A : M3 ℝ) :
    HasDerivM3 (fun s => f s • A) (f' • A) t :=
  ⟨hf.mul_const A.a11, hf.mul_const A.a12, hf.mul_const A.a13, hf.mul_const A.a21, hf.mul_const A.a22, hf.mul_const A.a23,
   hf.mul_const A.a31, hf.mul_const A.a32, hf.mul_const A.a33⟩

theorem HasDerivM3.kpoly (K : M3 ℝ) {a b c : ℝ → ℝ} {a' b' c' t : ℝ} (ha : HasDerivAt a a' t) (hb : HasDerivAt b b' t)
    (hc : HasDerivAt c c' t) : HasDerivM3 (fun s => kpoly K (a s) (b s) (c s)) (kpoly K a' b' c') t :=
  ((HasDerivM3.smul_const ha 1).add (HasDerivM3.smul_const hb K)).add (HasDerivM3.smul_const hc (K * K))

theorem HasDerivM3.T {F : ℝ → M3 ℝ} {F' : M3 ℝ} {t : ℝ} (h : HasDerivM3 F F' t) : HasDerivM3 (fun s => (F s).T) F'.T t :=
  ⟨h.1, h.2.2.2.1, h.2.2.2.2.2.2.1, h.2.1, h.2.2.2.2.1, h.2.2.2.2.2.2.2.1, h.2.2.1, h.2.2.2.2.2.1, h.2.2.2.2.2.2.2.2⟩

/-- a constant row times a differentiable column: one entry of A · F(s) and of A · p(s) -/
theorem hasDerivAt_row_mul (a b c : ℝ) {f g h : ℝ → ℝ} {f' g' h' t : ℝ} (hf : HasDerivAt f f' t) (hg : HasDerivAt g g' t)
    (hh : HasDerivAt h h' t) : HasDerivAt (fun s => a * f s + b * g s + c * h s) (a * f' + b * g' + c * h') t :=
  ((hf.const_mul a).add (hg.const_mul b)).add (hh.const_mul c)

theorem HasDerivM3.const_mul (A : M3 ℝ) {F : ℝ → M3 ℝ} {F' : M3 ℝ} {t : ℝ} (h : HasDerivM3 F F' t) :
    HasDerivM3 (fun s => A * F s) (A * F') t := by
  obtain ⟨h11, h12, h13, h21, h22, h23, h31, h32, h33⟩ := h
  exact ⟨hasDerivAt_row_mul A.a11 A.a12 A.a13 h11 h21 h31, hasDerivAt_row_mul A.a11 A.a12 A.a13 h12 h22 h32,
    hasDerivAt_row_mul A.a11 A.a12 A.a13 h13 h23 h33, hasDerivAt_row_mul A.a21 A.a22 A.a23 h11 h21 h31,
    hasDerivAt_row_mul A.a21 A.a22 A.a23 h12 h22 h32, hasDerivAt_row_mul A.a21 A.a22 A.a23 h13 h23 h33,
    hasDerivAt_row_mul A.a31 A.a32 A.a33 h11 h21 h31, hasDerivAt_row_mul A.a31 A.a32 A.a33 h12 h22 h32,
    hasDerivAt_row_mul A.a31 A.a32 A.a33 h13 h23 h33⟩

theorem HasDerivM3.mul_const (B : M3 ℝ) {F : ℝ → M3 ℝ} {F' : M3 ℝ} {t : ℝ} (h : HasDerivM3 F F' t) :
    HasDerivM3 (fun s => F s * B) (F' * B) t := by
  have := (h.T.const_mul B.T).T
  simpa only [T_mul, T_T] using this

theorem HasDerivM3.mulVec_const (b : V3 ℝ) {F : ℝ → M3 ℝ} {F' : M3 ℝ} {t : ℝ} (h : HasDerivM3 F F' t) :
    HasDerivV3 (fun s => (F s).mulVec b) (F'.mulVec b) t := by
  -- F(s) b is the first column of F(s) · [b 0 0]
  obtain ⟨h1, -, -, h2, -, -, h3, -, -⟩ := h.mul_const ⟨b.x, 0, 0, b.y, 0, 0, b.z, 0, 0⟩
  exact ⟨h1, h2, h3⟩

theorem HasDerivV3.const_mulVec (A : M3 ℝ) {p : ℝ → V3 ℝ} {p' : V3 ℝ} {t : ℝ} (h : HasDerivV3 p p' t) :
    HasDerivV3 (fun s => A.mulVec (p s)) (A.mulVec p') t :=
  ⟨hasDerivAt_row_mul A.a11 A.a12 A.a13 h.1 h.2.1 h.2.2, hasDerivAt_row_mul A.a21 A.a22 A.a23 h.1 h.2.1 h.2.2,
    hasDerivAt_row_mul A.a31 A.a32 A.a33 h.1 h.2.1 h.2.2⟩

theorem HasDerivV3.add {p q : ℝ → V3 ℝ} {p' q' : V3 ℝ} {t : ℝ} (hp : HasDerivV3 p p' t) (hq : HasDerivV3 q q' t) :
    HasDerivV3 (fun s => p s + q s) (p' + q') t :=
  ⟨hp.1.add hq.1, hp.2.1.add hq.2.1, hp.2.2.add hq.2.2⟩

theorem HasDerivV3.add_const (c : V3 ℝ) {p : ℝ → V3 ℝ} {p' : V3 ℝ} {t : ℝ} (hp : HasDerivV3 p p' t) :
    HasDerivV3 (fun s => p s + c) p' t :=
  ⟨hp.1.add_const c.x, hp.2.1.add_const c.y, hp.2.2.add_const c.z⟩

theorem HasDerivT4.const_mul (A : T4 ℝ) {G : ℝ → T4 ℝ} {G' : T4 ℝ} {t : ℝ} (h : HasDerivT4 G G' t) :
    HasDerivT4 (fun s => A * G s) (gt A G') t :=
  ⟨h.1.const_mul A.R, (h.2.const_mulVec A.R).add_const A.p⟩

theorem HasDerivT4.mul_const (B : T4 ℝ) {G : ℝ → T4 ℝ} {G' : T4 ℝ} {t : ℝ} (h : HasDerivT4 G G' t) :
    HasDerivT4 (fun s => G s * B) (tg G' B) t :=
  ⟨h.1.mul_const B.R, (h.1.mulVec_const B.p).add h.2⟩

theorem HasDerivT4.congr {f g : ℝ → T4 ℝ} {g' : T4 ℝ} {t : ℝ} (h : HasDerivT4 g g' t) (he : f =ᶠ[nhds t] g) :
    HasDerivT4 f g' t := by
  obtain ⟨⟨h11, h12, h13, h21, h22, h23, h31, h32, h33⟩, hx, hy, hz⟩ := h
  exact ⟨⟨h11.congr_of_eventuallyEq (he.fun_comp (fun T => T.R.a11)), h12.congr_of_eventuallyEq (he.fun_comp (fun T => T.R.a12)),
          h13.congr_of_eventuallyEq (he.fun_comp (fun T => T.R.a13)), h21.congr_of_eventuallyEq (he.fun_comp (fun T => T.R.a21)),
          h22.congr_of_eventuallyEq (he.fun_comp (fun T => T.R.a22)), h23.congr_of_eventuallyEq (he.fun_comp (fun T => T.R.a23)),
          h31.congr_of_eventuallyEq (he.fun_comp (fun T => T.R.a31)), h32.congr_of_eventuallyEq (he.fun_comp (fun T => T.R.a32)),
          h33.congr_of_eventuallyEq (he.fun_comp (fun T => T.R.a33))⟩,
         hx.congr_of_eventuallyEq (he.fun_comp (fun T => T.p.x)), hy.congr_of_eventuallyEq (he.fun_comp (fun T => T.p.y)),
         hz.congr_of_eventuallyEq (he.fun_comp (fun T => T.p.z))⟩

/-! ### one joint -/

/-- closed form of a revolute joint's exponential (unit axis ω, point-velocity part v), as a function of the angle -/
noncomputable def revR (ω : V3 ℝ) (θ : ℝ) : M3 ℝ :=
  M3.one + M3.smul (Real.sin θ) (hat ω) + M3.smul (1 - Real.cos θ) (hat ω * hat ω)
noncomputable def revP (ω v : V3 ℝ) (θ : ℝ) : V3 ℝ :=
  (M3.smul θ M3.one + M3.smul (1 - Real.cos θ) (hat ω) + M3.smul (θ - Real.sin θ) (hat ω * hat ω)).mulVec v

theorem revR_eq_rod (ω : V3 ℝ) (θ : ℝ) : revR ω θ = rod ω (Real.sin θ) (Real.cos θ) := rfl
theorem revP_eq_Gmat (ω v : V3 ℝ) (θ : ℝ) : revP ω v θ = (Gmat (hat ω) θ).mulVec v := rfl

theorem hasDerivAt_one_sub_cos (t : ℝ) : HasDerivAt (fun θ => 1 - Real.cos θ) (Real.sin t) t := by
  simpa using (Real.hasDerivAt_cos t).const_sub 1

/-- **d/dθ of the closed form is [S] times it** (S = (ω, v)); all it needs of ω is [ω]³ = −[ω], true of a unit
    vector and of 0 -/
theorem hasDeriv_closed (ω v : V3 ℝ) (h3 : hat ω * hat ω * hat ω = -hat ω) (t : ℝ) :
    HasDerivT4 (fun θ => (⟨revR ω θ, revP ω v θ⟩ : T4 ℝ)) (tg (hat6 ⟨ω, v⟩) ⟨revR ω t, revP ω v t⟩) t := by
  have hR : HasDerivM3 (fun θ => revR ω θ) (kpoly (hat ω) 0 (Real.cos t) (Real.sin t)) t := by
    simp only [revR_eq_rod, rod_eq_kpoly]
    exact HasDerivM3.kpoly _ (hasDerivAt_const t 1) (Real.hasDerivAt_sin t) (hasDerivAt_one_sub_cos t)
  have hG : HasDerivM3 (fun θ => Gmat (hat ω) θ) (kpoly (hat ω) 1 (Real.sin t) (1 - Real.cos t)) t := by
    exact HasDerivM3.kpoly _ (hasDerivAt_id t) (hasDerivAt_one_sub_cos t) ((hasDerivAt_id t).sub (Real.hasDerivAt_sin t))
  -- the derivatives are [ω]·R and [ω]·G + 1: fold [ω]³ = −[ω] back into the coefficients
  have eR : hat ω * revR ω t = kpoly (hat ω) 0 (Real.cos t) (Real.sin t) := by
    rw [revR_eq_rod, rod_eq_kpoly, K_mul_kpoly _ h3, sub_sub_cancel]
  have eG : hat ω * Gmat (hat ω) t + 1 = kpoly (hat ω) 1 (Real.sin t) (1 - Real.cos t) := by
    rw [Gmat_eq_kpoly, K_mul_kpoly _ h3, ← kpoly_one (hat ω), kpoly_add]
    congr 1 <;> ring
  have e : tg (hat6 ⟨ω, v⟩) ⟨revR ω t, revP ω v t⟩ =
      ⟨kpoly (hat ω) 0 (Real.cos t) (Real.sin t), (kpoly (hat ω) 1 (Real.sin t) (1 - Real.cos t)).mulVec v⟩ := by
    refine T4.ext eR ?_
    show (hat ω).mulVec ((Gmat (hat ω) t).mulVec v) + v = _
    rw [← eG, add_mulVec, mulVec_mul, one_mulVec]
  rw [e]
  exact ⟨hR, hG.mulVec_const v⟩

/-- **a revolute joint's exponential is the closed form** for every angle outside the cut-off band (unit axis) -/
theorem exp6_revolute (S : V6 ℝ) (hunit : norm3 S.a = 1) (θ : ℝ) (hθ : (1e-6 : ℝ) ≤ |θ|) :
    matrixExp6 (hat6 (V6.smul θ S)) = ⟨revR S.a θ, revP S.a S.b θ⟩ :=
  exp6_unit S.a S.b hunit θ hθ

theorem exp6_prismatic (v : V3 ℝ) (θ : ℝ) :
    matrixExp6 (hat6 (V6.smul θ (⟨⟨0, 0, 0⟩, v⟩ : V6 ℝ))) = ⟨M3.one, V3.smul θ v⟩ := by
  have hz : nearZero (norm3 (V6.smul θ (⟨⟨0, 0, 0⟩, v⟩ : V6 ℝ)).a) := by
    show nearZero (norm3 (θ • (⟨0, 0, 0⟩ : V3 ℝ)))
    rw [norm3_smul, V3.mk_zero, norm3_zero, mul_zero]; exact nearZero_zero
  rw [exp6_translating _ hz]
  rfl

theorem closed_prismatic (v : V3 ℝ) (θ : ℝ) :
    (⟨revR ⟨0, 0, 0⟩ θ, revP ⟨0, 0, 0⟩ v θ⟩ : T4 ℝ) = ⟨M3.one, V3.smul θ v⟩ := by
  rw [V3.mk_zero, revR_eq_rod, rod_eq_kpoly, revP_eq_Gmat, Gmat_eq_kpoly, hat_zero]
  simp only [kpoly, smul_zero, mul_zero, add_zero, one_smul, smul_mulVec, one_mulVec]
  rfl

noncomputable def jointExp (S : V6 ℝ) (θ : ℝ) : T4 ℝ := matrixExp6 (hat6 (V6.smul θ S))

/-- what the property asks of a joint at the angle where the derivative is taken: a prismatic joint, or a revolute
    joint with unit axis turned by more than the library's cut-off -/
def JointSmooth (S : V6 ℝ) (t : ℝ) : Prop := S.a = ⟨0, 0, 0⟩ ∨ (norm3 S.a = 1 ∧ (1e-6 : ℝ) < |t|)

/-- the strict `<` in `JointSmooth` makes the condition open in θ, so the closed form holds on a neighbourhood of t,
    which is what `HasDerivAt` needs -/
theorem JointSmooth.closed {S : V6 ℝ} {t : ℝ} (h : JointSmooth S t) :
    hat S.a * hat S.a * hat S.a = -hat S.a ∧ jointExp S =ᶠ[nhds t] fun θ => (⟨revR S.a θ, revP S.a S.b θ⟩ : T4 ℝ) := by
  rcases h with h0 | ⟨hunit, ht⟩
  · obtain ⟨ω, v⟩ := S
    simp only at h0
    subst h0
    refine ⟨by rw [V3.mk_zero, hat_zero, mul_zero, neg_zero], Filter.Eventually.of_forall fun θ => ?_⟩
    exact (exp6_prismatic v θ).trans (closed_prismatic v θ).symm
  · refine ⟨hat_cube S.a (unit_of_norm3 hunit), ?_⟩
    have hopen : ∀ᶠ θ in nhds t, (1e-6 : ℝ) < |θ| := continuous_abs.continuousAt.eventually (lt_mem_nhds ht)
    filter_upwards [hopen] with θ hθ
    exact exp6_revolute S hunit θ hθ.le

/-- **d/dθ e^{[S]θ} = [S] e^{[S]θ}** for the library's exponential, outside its cut-off band -/
theorem hasDeriv_jointExp (S : V6 ℝ) (t : ℝ) (h : JointSmooth S t) :
    HasDerivT4 (jointExp S) (tg (hat6 S) (jointExp S t)) t := by
  obtain ⟨h3, hev⟩ := h.closed
  rw [hev.self_of_nhds]
  exact (hasDeriv_closed S.a S.b h3 t).congr hev

/-! ### the chain -/

def setAngle : List (V6 ℝ × ℝ) → Nat → ℝ → List (V6 ℝ × ℝ)
  | [], _, _ => []
  | (S, _) :: js, 0, s => (S, s) :: js
  | j :: js, i + 1, s => j :: setAngle js i s

theorem fkinSpace_cons (M : T4 ℝ) (S : V6 ℝ) (θ : ℝ) (l : List (V6 ℝ × ℝ)) :
    fkinSpace M ((S, θ) :: l) = jointExp S θ * fkinSpace M l := rfl

theorem setAngle_self (joints : List (V6 ℝ × ℝ)) (i : Nat) (hi : i < joints.length) :
    setAngle joints i (joints[i]).2 = joints := by
  induction joints generalizing i with
  | nil => exact absurd hi (Nat.not_lt_zero _)
  | cons j js ih =>
    obtain ⟨S, θ⟩ := j
    cases i with
    | zero => rfl
    | succ k => exact congrArg ((S, θ) :: ·) (ih k (Nat.lt_of_succ_lt_succ hi))

theorem fk_split (M T : T4 ℝ) (joints : List (V6 ℝ × ℝ)) (i : Nat) (hi : i < joints.length) (s : ℝ) :
    T * fkinSpace M (setAngle joints i s) =
      prefixProd T joints i * (jointExp (joints[i]).1 s * fkinSpace M (joints.drop (i + 1))) := by
  induction joints generalizing T i with
  | nil => exact absurd hi (Nat.not_lt_zero _)
  | cons j js ih =>
    obtain ⟨S, θ⟩ := j
    cases i with
    | zero => rfl
    | succ k =>
      -- joint 0 goes from the chain to the prefix: T · (E₀ · FK(…)) = (T · E₀) · FK(…), the rest is the hypothesis
      show T * (jointExp S θ * fkinSpace M (setAngle js k s)) = _
      rw [← T4_mul_assoc]
      exact ih _ k (Nat.lt_of_succ_lt_succ hi)

theorem fk_split_one (M : T4 ℝ) (joints : List (V6 ℝ × ℝ)) (i : Nat) (hi : i < joints.length) (s : ℝ) :
    fkinSpace M (setAngle joints i s) =
      prefixProd T4.one joints i * (jointExp (joints[i]).1 s * fkinSpace M (joints.drop (i + 1))) := by
  rw [← fk_split M T4.one joints i hi s, T4_one_mul]

theorem fk_split_self (M : T4 ℝ) (joints : List (V6 ℝ × ℝ)) (i : Nat) (hi : i < joints.length) :
    fkinSpace M joints =
      prefixProd T4.one joints i * (jointExp (joints[i]).1 (joints[i]).2 * fkinSpace M (joints.drop (i + 1))) := by
  rw [← fk_split_one M joints i hi, setAngle_self joints i hi]

theorem prefixProd_isRot (T : T4 ℝ) (hT : IsRot T.R) (joints : List (V6 ℝ × ℝ)) (i : Nat) :
    IsRot (prefixProd T joints i).R := by
  induction joints generalizing T i with
  | nil => cases i <;> exact hT
  | cons j js ih =>
    obtain ⟨S, θ⟩ := j
    cases i with
    | zero => exact hT
    | succ k => exact ih (T * jointExp S θ) (isRot_mul hT (exp6_isRot _)) k

theorem fkinSpace_isRot (M : T4 ℝ) (hM : IsRot M.R) : ∀ l : List (V6 ℝ × ℝ), IsRot (fkinSpace M l).R
  | [] => hM
  | (_, _) :: l => isRot_mul (exp6_isRot _) (fkinSpace_isRot M hM l)

theorem gt_mul (P X Y : T4 ℝ) : gt P (X * Y) = gt P X * Y := by
  show (⟨P.R * (X.R * Y.R), P.R.mulVec (X.R.mulVec Y.p + X.p)⟩ : T4 ℝ) = ⟨P.R * X.R * Y.R, (P.R * X.R).mulVec Y.p + P.R.mulVec X.p⟩
  rw [mul_assoc, mulVec_add, mulVec_mul]

theorem hat6_adjoint_eq_gt (P : T4 ℝ) (hP : IsRot P.R) (V : V6 ℝ) :
    hat6 ((adjoint P).mulVec V) = gt P (hat6 V) * transInv P := hat6_adjoint_mulVec P hP V

/-- **the derivative clause of C06**: with respect to the angle of joint i, forward kinematics moves with the spatial
    twist Ad(e^{[S_0]θ_0}⋯e^{[S_{i-1}]θ_{i-1}}) S_i — column i of the space Jacobian (`jacobianSpace_col`) —
    i.e.  d/dθ_i FK(θ) = [J_s(θ) e_i] · FK(θ), for chains of any length, at every configuration where joint i is outside
    the exponential's cut-off band -/
theorem fk_hasDeriv (M : T4 ℝ) (joints : List (V6 ℝ × ℝ)) (i : Nat) (hi : i < joints.length)
    (hs : JointSmooth (joints[i]).1 (joints[i]).2) :
    HasDerivT4 (fun s => fkinSpace M (setAngle joints i s))
      (tg (hat6 ((adjoint (prefixProd T4.one joints i)).mulVec (joints[i]).1)) (fkinSpace M joints)) (joints[i]).2 := by
  set P := prefixProd T4.one joints i
  set Rest := fkinSpace M (joints.drop (i + 1))
  have hP : IsRot P.R := prefixProd_isRot T4.one isRot_one joints i
  rw [funext (fk_split_one M joints i hi), fk_split_self M joints i hi]
  have hd := ((hasDeriv_jointExp (joints[i]).1 (joints[i]).2 hs).mul_const Rest).const_mul P
  -- P · ([S] E Rest) = (P [S] P⁻¹) · (P E Rest) = [Ad(P) S] · (P E Rest)
  rw [hat6_adjoint_eq_gt P hP, tg_eq_mul, T4_mul_assoc, transInv_mul_cancel_left hP]
  rwa [tg_eq_mul, tg_eq_mul, T4_mul_assoc, gt_mul] at hd

/-- the same statement phrased with the Jacobian the library computes -/
theorem jacobianSpace_is_derivative (M : T4 ℝ) (joints : List (V6 ℝ × ℝ)) (i : Nat) (hi : i < joints.length)
    (hs : JointSmooth (joints[i]).1 (joints[i]).2) :
    ∃ J, (jacobianSpace joints)[i]? = some J ∧
      HasDerivT4 (fun s => fkinSpace M (setAngle joints i s)) (tg (hat6 J) (fkinSpace M joints)) (joints[i]).2 :=
  ⟨_, jacobianSpace_col joints i hi, fk_hasDeriv M joints i hi hs⟩

/-- non-vacuity: a unit-axis revolute joint turned by 1 rad is smooth -/
example : JointSmooth (⟨⟨0, 0, 1⟩, ⟨0, 0, 0⟩⟩ : V6 ℝ) 1 := by
  right
  refine ⟨norm3_eq_of_sq _ 1 (by norm_num) (by norm_num), ?_⟩
  rw [abs_one]; norm_num

end BR.C06D
