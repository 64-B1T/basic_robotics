/-
  C03 — a transform object's matrix and six-vector always describe the same pose.
  Property theorems about BR/Model/Tm.lean at ℝ.
-/
import BR.Lemmas.TmLemmas
import BR.Lemmas.Log3
import Mathlib.Analysis.SpecialFunctions.Trigonometric.Bounds

namespace BR.C03
open BR.MR BR.Rot BR.TmModel

/-- the 4×4 is exactly the transform whose rotation is exp of the last three entries of the
    six-vector and whose translation is the first three -/
def Coherent (t : Tm ℝ) : Prop := t.TM = taaToTM t.TAA

/-- the matrix is an element of SE(3) (rotation block proper; last row 0 0 0 1 is in the type) -/
def WF (t : Tm ℝ) : Prop := IsRot t.TM.R

/-- the rotation angle of R is 0 or at least the library's 1e-6 cut-off (outside the band in
    which `MatrixExp3` snaps to the identity) -/
def AngleOK (R : M3 ℝ) : Prop :=
  1 ≤ (R.trace - 1) / 2 ∨ (1e-6 : ℝ) ≤ Real.arccos ((R.trace - 1) / 2)

/-- writers of the six-vector: coherent by construction, for every six-vector -/
theorem ofTAA_coherent (v : V6 ℝ) : Coherent (ofTAA v) := rfl

theorem ofTAA_wf (v : V6 ℝ) : WF (ofTAA v) := exp3_isRot v.b

/-- writers of the matrix: `TMtoTAA` produces a six-vector whose exponential is the matrix,
    for every rigid transform outside the cut-off band (all three branches of the logarithm) -/
theorem ofTM_coherent (T : T4 ℝ) (hR : IsRot T.R) (hA : AngleOK T.R) : Coherent (ofTM T) := by
  unfold Coherent ofTM taaToTM tmToTAA
  rw [hat_vee_log3, exp3_log3 T.R hR hA]

theorem ofTM_wf (T : T4 ℝ) (hR : IsRot T.R) : WF (ofTM T) := hR

theorem ofTAA_ok (v : V6 ℝ) : WF (ofTAA v) ∧ Coherent (ofTAA v) := ⟨ofTAA_wf v, ofTAA_coherent v⟩

theorem ofTM_ok {T : T4 ℝ} (hR : IsRot T.R) (hA : AngleOK T.R) : WF (ofTM T) ∧ Coherent (ofTM T) :=
  ⟨hR, ofTM_coherent T hR hA⟩

/-- the matrix the operation writes into its result (and so hands to `TMtoTAA`), if any; the rpy constructors call
    `TMtoTAA` on intermediates but write the result through the six-vector -/
noncomputable def viaTM (s : List (Tm ℝ)) : Op ℝ → Option (T4 ℝ)
  | .ctorTM T => some T
  | .sTM _ T => some T
  | .ctor7 p x y z w => some ⟨quatToRot x y z w, p⟩
  | .setQuat i x y z w => some ⟨quatToRot x y z w, (getD s i).TM.p⟩
  | .inv i => some (transInv (getD s i).TM)
  | .ctorCopyArr i => some (getD s i).TM
  | .matmul i j => some ((getD s i).TM * (getD s j).TM)
  | .floordiv i j => some ((getD s i).TM * transInv (getD s j).TM)
  | _ => none

/-- side conditions on caller-supplied data: matrices are rigid, quaternions non-zero -/
def InputOK : Op ℝ → Prop
  | .ctorTM T => IsRot T.R
  | .sTM _ T => IsRot T.R
  | .ctor7 _ x y z w => 0 < x * x + y * y + z * z + w * w
  | .setQuat _ x y z w => 0 < x * x + y * y + z * z + w * w
  | _ => True

def StoreOK (s : List (Tm ℝ)) : Prop := ∀ t ∈ s, WF t ∧ Coherent t

theorem ident_ok : WF (ident : Tm ℝ) ∧ Coherent (ident : Tm ℝ) :=
  ofTM_ok isRot_one (Or.inl one_le_trace_one)

theorem getD_ok {s : List (Tm ℝ)} (hs : StoreOK s) (i : Nat) : WF (getD s i) ∧ Coherent (getD s i) := by
  unfold getD
  rw [List.getD_eq_getElem?_getD]
  cases h : s[i]? with
  | none => exact ident_ok
  | some t => exact hs t (List.mem_of_getElem? h)

theorem angleMod_ok {t : Tm ℝ} (h : WF t ∧ Coherent t) : WF (angleMod t) ∧ Coherent (angleMod t) := by
  unfold angleMod
  -- the reduction `f` of one component stays a name: written out in the three components it is most of the term
  extract_lets f r
  split
  · exact ofTAA_ok _
  · exact h

/-- **one step**: whatever operation of the alphabet is applied to coherent, well-formed objects,
    the object it produces or rewrites is again well-formed and coherent — provided no matrix
    handed to `TMtoTAA` has its rotation angle strictly inside (0, 1e-6). -/
theorem result_ok (s : List (Tm ℝ)) (hs : StoreOK s) (op : Op ℝ) (hin : InputOK op)
    (hA : ∀ T, viaTM s op = some T → AngleOK T.R) :
    WF (result s op) ∧ Coherent (result s op) := by
  -- an operation writes the six-vector (coherent by construction), writes the matrix `viaTM` gives, or hands on
  -- an object of the store
  cases op with
  | ctor6 v rpy | ctor3 r rpy | ctorPair p r rpy =>
    cases rpy <;> exact ofTAA_ok _
  | sTAA i v | set i k x | setPos i v | setRot i v | add i j | sub i j | mulS i k | divS i k | abs i | floordivS i k
  | l2g i j | g2l i j => exact ofTAA_ok _
  | angleMod i => exact angleMod_ok (getD_ok hs i)
  | ctorCopy i | copy i => exact getD_ok hs i
  | ctorTM T | sTM i T => exact ofTM_ok hin (hA _ rfl)
  | ctor7 p x y z w | setQuat i x y z w => exact ofTM_ok (quatToRot_isRot x y z w hin) (hA _ rfl)
  | ctorCopyArr i => exact ofTM_ok (getD_ok hs i).1 (hA _ rfl)
  | inv i => exact ofTM_ok (transInv_isRot (getD_ok hs i).1) (hA _ rfl)
  | matmul i j => exact ofTM_ok (isRot_mul (getD_ok hs i).1 (getD_ok hs j).1) (hA _ rfl)
  | floordiv i j => exact ofTM_ok (isRot_mul (getD_ok hs i).1 (transInv_isRot (getD_ok hs j).1)) (hA _ rfl)

theorem step_ok (s : List (Tm ℝ)) (hs : StoreOK s) (op : Op ℝ) (hin : InputOK op)
    (hA : ∀ T, viaTM s op = some T → AngleOK T.R) : StoreOK (step s op) := by
  have hr := result_ok s hs op hin hA
  unfold step
  cases target op with
  | none =>
    intro t ht
    rcases List.mem_append.mp ht with h | h
    · exact hs t h
    · rw [List.mem_singleton.mp h]; exact hr
  | some i =>
    simp only
    split_ifs with hi
    · intro t ht
      rcases List.mem_or_eq_of_mem_set ht with h | h
      · exact hs t h
      · rw [h]; exact hr
    · exact hs

def HistoryOK : List (Tm ℝ) → List (Op ℝ) → Prop
  | _, [] => True
  | s, op :: ops => InputOK op ∧ (∀ T, viaTM s op = some T → AngleOK T.R) ∧ HistoryOK (step s op) ops

/-- **every history**: after any sequence of constructions, setters, element / slice
    assignments, quaternion updates and operators, every object in the store is coherent and in
    SE(3). -/
theorem history_coherent (s : List (Tm ℝ)) (ops : List (Op ℝ)) (hs : StoreOK s) (h : HistoryOK s ops) :
    StoreOK (run s ops) := by
  induction ops generalizing s with
  | nil => exact hs
  | cons op ops ih =>
    obtain ⟨hin, hA, hrest⟩ := h
    exact ih (step s op) (step_ok s hs op hin hA) hrest

theorem history_from_empty (ops : List (Op ℝ)) (h : HistoryOK [] ops) : StoreOK (run [] ops) :=
  history_coherent [] ops (by intro t ht; cases ht) h

/-- what is written through one representation is read back through the other:
    `sTAA v` then `gTM` is exp of v; `sTM T` then the six-vector exponentiates back to T. -/
theorem write_taa_read_tm (v : V6 ℝ) : (ofTAA v).TM = ⟨matrixExp3 (hat v.b), v.a⟩ := rfl
theorem write_tm_read_taa (T : T4 ℝ) (hR : IsRot T.R) (hA : AngleOK T.R) :
    taaToTM (ofTM T).TAA = T := (ofTM_coherent T hR hA).symm

/-! non-vacuity: a concrete history satisfying the side conditions -/
noncomputable def R345 : M3 ℝ := ⟨3 / 5, -4 / 5, 0, 4 / 5, 3 / 5, 0, 0, 0, 1⟩
theorem R345_isRot : IsRot R345 := by
  unfold R345
  constructor
  · simp only [M3.mul_def, M3.mul, M3.T, M3.one, ofNat_real_zero, ofNat_real_one, M3.mk.injEq]
    norm_num
  · norm_num [M3.det]
theorem R345_angle : AngleOK R345 := by
  right
  have : (R345.trace - 1) / 2 = 3 / 5 := by unfold R345; m3simp; norm_num
  rw [this]
  -- arccos is antitone and 3/5 ≤ 1 − (1e-6)²/2 ≤ cos 1e-6
  rw [← Real.arccos_cos (x := 1e-6) (by norm_num) (le_trans (by norm_num) Real.two_le_pi)]
  exact Real.arccos_le_arccos (le_trans (by norm_num) Real.one_sub_sq_div_two_le_cos)
example : HistoryOK [] [Op.ctorTM ⟨R345, ⟨1, 2, 3⟩⟩, Op.ctor6 ⟨⟨0, 0, 1⟩, ⟨0, 0, 5e-7⟩⟩ false, Op.add 0 1] :=
  ⟨R345_isRot, (fun T hT => by cases hT; exact R345_angle), trivial, (fun T hT => by cases hT), trivial,
    (fun T hT => by cases hT), trivial⟩

end BR.C03
