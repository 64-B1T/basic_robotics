/-
  C18 (twistToGoal clause) — exponentiating the twist `twistToGoal(start, goal)` and applying it to `start` gives `goal`,
  for every pair of rigid transforms whose relative rotation angle is 0 or at least the 1e-6 cut-off (half turns included).
-/
import BR.Props.C18
import BR.Props.C03
import BR.Props.C01

namespace BR.C18T
open BR.MR BR.Rot BR.Helpers BR.C01

theorem log6_R_skew (eq0 : M3 ℝ → Bool) (T : T4 ℝ) : IsSkew (matrixLog6 eq0 T).R := by
  unfold matrixLog6
  simp only
  split
  · exact neg_zero.symm
  · rw [← hat_vee_log3]; exact hat_T _

/-- **twistToGoal reaches the goal**: e^{[twistToGoal(A, B)]} · A = B -/
theorem twistToGoal_reaches (eq0 : M3 ℝ → Bool) (heq0 : ∀ m, eq0 m = true ↔ m3IsZero m) (A B : T4 ℝ)
    (hA : IsRot A.R) (hB : IsRot B.R)
    (h : 1 ≤ ((B * transInv A).R.trace - 1) / 2 ∨ (1e-6 : ℝ) ≤ Real.arccos (((B * transInv A).R.trace - 1) / 2)) :
    matrixExp6 (hat6 (twistToGoal eq0 A B)) * A = B := by
  have hD : IsRot (B * transInv A).R := isRot_mul hB (transInv_isRot hA)
  unfold twistToGoal
  rw [hat6_vee6 _ (log6_R_skew eq0 _), exp6_log6 eq0 heq0 _ hD h, T4_mul_assoc, Rot.transInv_mul A hA.1, T4_mul_one]

end BR.C18T

/-
  C18 — "gap-closing steps advance by exactly the requested amount toward the goal": the arc variant.

  closeArcGap(origin, goal, δ) = origin @ TAAtoTM(δ · d/|d|), d = goal − origin (six-vector difference).
  Measured by the library's own arcDistance (norm of the pose of the result relative to the origin) the step is
  exactly |δ| long, and the relative pose is a multiple of d.  Side conditions, explicit: the rotation part of the step
  is zero or has a norm in [1e-6, π) (inside the cut-off band the library's exponential snaps to the identity and the
  rotational part of the step is lost), and the result's rotation is outside that band too (`AngleOK`).
-/
namespace BR.C18A
open BR.MR BR.Rot BR.TmModel BR.Helpers BR.C18

/-- the pose of `o @ TAAtoTM(v)` relative to `o` is `v` -/
theorem rel_of_step (o v : V6 ℝ)
    (hv : v.b = ⟨0, 0, 0⟩ ∨ ((1e-6 : ℝ) ≤ norm3 v.b ∧ norm3 v.b < Real.pi))
    (hA : BR.C03.AngleOK (taaToTM o * taaToTM v).R) :
    globalToLocalTAA o (ofTM (taaToTM o * taaToTM v)).TAA = v := by
  have hRo : IsRot (taaToTM o).R := exp3_isRot o.b
  have hX : IsRot (taaToTM o * taaToTM v).R := isRot_mul hRo (exp3_isRot v.b)
  -- the result's TAA exponentiates back to the matrix (this needs `AngleOK`); cancel `inv(tm o) · tm o`; what is left is
  -- log ∘ exp on the rotation part of `v`
  rw [globalToLocalTAA_eq, BR.C03.write_tm_read_taa _ hX hA, transInv_mul_cancel_left hRo]
  exact V6.ext rfl (BR.C01.vee_log3_exp3 v.b hv)

/-- **closeArcGap advances by exactly |δ| in arc distance, along the direction of goal − origin** -/
theorem closeArcGap_advance (o g : V6 ℝ) (δ : ℝ) (isZero : ℝ → Bool) (X : T4 ℝ)
    (hz : ∀ x, isZero x = true ↔ x = 0) (h : closeArcGap o g δ isZero = some X)
    (hv : (V6.smul δ (V6.sdiv (g - o) (norm6 (g - o)))).b = ⟨0, 0, 0⟩ ∨
          ((1e-6 : ℝ) ≤ norm3 (V6.smul δ (V6.sdiv (g - o) (norm6 (g - o)))).b ∧
           norm3 (V6.smul δ (V6.sdiv (g - o) (norm6 (g - o)))).b < Real.pi))
    (hA : BR.C03.AngleOK X.R) :
    arcDistance o (ofTM X).TAA = |δ| ∧
    globalToLocalTAA o (ofTM X).TAA = V6.smul (δ / norm6 (g - o)) (g - o) := by
  unfold closeArcGap at h
  simp only at h
  split_ifs at h with h0
  have hn : norm6 (g - o) ≠ 0 := fun hh => h0 ((hz _).mpr hh)
  cases h
  unfold arcDistance
  rw [rel_of_step o _ hv hA]
  exact ⟨norm6_step _ δ hn, step_eq_smul _ δ⟩

/-- when origin and goal coincide the goal itself is returned (model: `none`) -/
theorem closeArcGap_at_goal (o : V6 ℝ) (δ : ℝ) (isZero : ℝ → Bool) (hz : ∀ x, isZero x = true ↔ x = 0) :
    closeArcGap o o δ isZero = none := by
  unfold closeArcGap
  simp only
  rw [sub_self, norm6_zero, if_pos ((hz _).mpr rfl)]

/-- non-vacuity: a pure translation step of length 1/2 from the origin towards (1,0,0) meets the hypotheses -/
example : (V6.smul (1/2 : ℝ) (⟨⟨1, 0, 0⟩, ⟨0, 0, 0⟩⟩ : V6 ℝ)).b = ⟨0, 0, 0⟩ := by
  simp [V6.smul, V3.smul]

end BR.C18A
