/-
  C08 — rigid-body dynamics: the structure of the Newton–Euler recursion, for chains of any length.
  The recursion is affine in (θ̈, incoming acceleration, tip wrench), its linear part being the run at rest
  (`id_superposition`); hence τ = M θ̈ + c + g + JᵀF with the four terms as the library computes them
  (`torque_decomposition`).  Symmetry and semi-definiteness of the mass matrix the recursion defines are below (`BR.C08M`), forward dynamics after them (`BR.C08F`).
  Of the closed form Σ JᵢᵀGᵢJᵢ that Arm.massMatrix evaluates only this is stated here: a sum of link quadratic forms
  is non-negative (`massForm_nonneg`).  That the closed form equals the recursion, passivity, the gravity gradient
  and energy conservation are decided on the implementation — harness/c08.py.
-/
import BR.Lemmas.Alg
import BR.Model.Dyn

namespace BR.C08
open BR.MR BR.Dyn

theorem v6zero_eq : (v6zero : V6 ℝ) = 0 := rfl

theorem M6_mulVec_sub (A : M6 ℝ) (u v : V6 ℝ) : A.mulVec (u - v) = A.mulVec u - A.mulVec v :=
  M6.mulVec_sub A u v

/-- **a link at rest**: all the library's derived terms but the velocity-quadratic one (MassMatrix, GravityForces,
    EndEffectorForces) are runs at rest -/
theorem idyn_cons_rest (L : Link ℝ) (Ls : List (Link ℝ)) (x : ℝ) (rs : List (ℝ × ℝ)) (Vd F : V6 ℝ) :
    idyn (L :: Ls) ((0, x) :: rs) 0 Vd F =
      let W := L.AdT.mulVec Vd + x • L.A
      let r := idyn Ls rs 0 W F
      (V6.dot (r.2 + L.G.mulVec W) L.A :: r.1, L.AdT.T.mulVec (r.2 + L.G.mulVec W)) := by
  simp only [idyn, V6.smul_eq, M6.mulVec_zero, zero_smul, add_zero, sub_zero]

def addL : List ℝ → List ℝ → List ℝ
  | a :: as, b :: bs => (a + b) :: addL as bs
  | _, _ => []

/-- **superposition**: a run of the recursion with rates (θ̇, θ̈a + θ̈b), incoming acceleration V̇a + V̇b and
    tip wrench Fa + Fb is the sum of the run with (θ̇, θ̈a, V̇a, Fa) — which carries every velocity-product
    term — and the zero-velocity run with (0, θ̈b, V̇b, Fb), which is linear. -/
theorem id_superposition (Ls : List (Link ℝ)) (dθ ddθa ddθb : List ℝ) (hl1 : ddθa.length = dθ.length)
    (hl2 : ddθb.length = dθ.length) (Vp Vda Vdb Fa Fb : V6 ℝ) :
    let full := idyn Ls (dθ.zip ((ddθa.zip ddθb).map fun p => p.1 + p.2)) Vp (Vda + Vdb) (Fa + Fb)
    let a := idyn Ls (dθ.zip ddθa) Vp Vda Fa
    let b := idyn Ls ((dθ.map fun _ => (0 : ℝ)).zip ddθb) v6zero Vdb Fb
    full.1 = addL a.1 b.1 ∧ full.2 = a.2 + b.2 := by
  induction Ls generalizing dθ ddθa ddθb Vp Vda Vdb with
  | nil => exact ⟨rfl, rfl⟩
  | cons L Ls ih =>
    match dθ, ddθa, ddθb with
    | [], _, _ => exact ⟨rfl, rfl⟩
    | d :: dθ, xa :: ddθa, xb :: ddθb =>
      simp only [List.length_cons, Nat.add_right_cancel_iff] at hl1 hl2
      -- two facts about variables, stated before `idyn` is unfolded (picking their instances out of the unfolded goal
      -- is slow).  The acceleration of this link splits, the velocity-product term X staying with the first run …
      have hVd : ∀ X : V6 ℝ, L.AdT.mulVec (Vda + Vdb) + (xa + xb) • L.A + X =
          (L.AdT.mulVec Vda + xa • L.A + X) + (L.AdT.mulVec Vdb + xb • L.A) := fun X => by
        rw [M6.mulVec_add, add_smul]; abel
      -- … and so does its wrench (F₁ + F₂) + (G V̇₁ + G V̇₂) − C, the velocity-product term C again with the first run
      have hF : ∀ F1 F2 G1 G2 C : V6 ℝ, F1 + F2 + (G1 + G2) - C = (F1 + G1 - C) + (F2 + G2) :=
        fun _ _ _ _ _ => by abel
      -- one link of the run at rest first (as `idyn_cons_rest` gives it), then one link of the other two runs
      simp only [List.zip_cons_cons, List.map_cons, v6zero_eq, idyn_cons_rest]
      simp only [idyn, V6.smul_eq, hVd]
      -- the hypothesis for the remaining links, at this link's twist Ad·Vp + θ̇·A and at the two accelerations `hVd` has
      -- just separated (the `rw` finds them)
      have ih' := ih dθ ddθa ddθb hl1 hl2
      rw [(ih' _ _ _).1, (ih' _ _ _).2, M6.mulVec_add L.G, hF, V6.dot_add_left, M6.mulVec_add L.AdT.T]
      exact ⟨rfl, rfl⟩

theorem addL_eq_zipWith (a b : List ℝ) : addL a b = List.zipWith (· + ·) a b := by
  induction a generalizing b with
  | nil => rfl
  | cons x a ih => cases b with
    | nil => rfl
    | cons y b => rw [addL, ih, List.zipWith_cons_cons]

theorem addL_assoc (a b c : List ℝ) : addL (addL a b) c = addL a (addL b c) := by
  simp only [addL_eq_zipWith, List.zipWith_zipWith_left, List.zipWith_zipWith_right, add_assoc]

theorem addL_comm (a b : List ℝ) : addL a b = addL b a := by
  simp only [addL_eq_zipWith, List.zipWith_comm_of_comm add_comm]

theorem addL_left_comm (a b c : List ℝ) : addL a (addL b c) = addL b (addL a c) := by
  rw [← addL_assoc, addL_comm a, addL_assoc]

theorem zip_map_add (a b : List ℝ) : ((a.zip b).map fun p => p.1 + p.2) = addL a b := by
  rw [addL_eq_zipWith, List.map_zip_eq_zipWith]
  rfl

theorem zeros_addL (xs ys : List ℝ) (h : ys.length = xs.length) : addL (xs.map fun _ => (0 : ℝ)) ys = ys := by
  rw [addL_eq_zipWith]
  apply List.ext_getElem <;> simp [h]

/-- **torque decomposition** τ = M·θ̈ + c(θ, θ̇) + g(θ) + JᵀF_tip, with the four terms *defined as the
    library defines them* (the recursion called with selected zeros): at any configuration (link data
    `Ls`), for every θ̇, θ̈, gravity acceleration `a` and transformed tip wrench `F`. -/
theorem torque_decomposition (Ls : List (Link ℝ)) (dθ ddθ : List ℝ) (hl : ddθ.length = dθ.length) (a F : V6 ℝ) :
    let zeros := dθ.map fun _ => (0 : ℝ)
    (idyn Ls (dθ.zip ddθ) v6zero a F).1 =
      addL (addL (addL (idyn Ls (zeros.zip ddθ) v6zero v6zero v6zero).1      -- M θ̈   (MassMatrix columns)
                       (idyn Ls (dθ.zip zeros) v6zero v6zero v6zero).1)     -- c      (VelQuadraticForces)
                 (idyn Ls (zeros.zip zeros) v6zero a v6zero).1)             -- g      (GravityForces)
           (idyn Ls (zeros.zip zeros) v6zero v6zero F).1 := by               -- JᵀF    (EndEffectorForces)
  intro zeros
  have hz : zeros.length = dθ.length := List.length_map _
  have hzz : (zeros.map fun _ => (0 : ℝ)) = zeros := List.map_map
  -- 1. split off the velocity-product run
  have s1 := (id_superposition Ls dθ zeros ddθ hz hl v6zero v6zero a v6zero F).1
  rw [zip_map_add, zeros_addL dθ ddθ hl] at s1
  -- 2. split the zero-velocity run into the acceleration part and the (gravity, tip) part
  have s2 := (id_superposition Ls zeros ddθ zeros (hl.trans hz.symm) rfl v6zero v6zero a v6zero F).1
  rw [zip_map_add, addL_comm ddθ, zeros_addL dθ ddθ hl, hzz] at s2
  -- 3. split gravity from the tip wrench
  have s3 := (id_superposition Ls zeros zeros zeros rfl rfl v6zero a v6zero v6zero F).1
  rw [zip_map_add, zeros_addL dθ zeros hz, hzz] at s3
  simp only [v6zero_eq, zero_add, add_zero] at s1 s2 s3 ⊢
  rw [s1, s2, s3, addL_assoc, addL_assoc, addL_left_comm]

noncomputable def quad (G : M6 ℝ) (v : V6 ℝ) : ℝ := V6.dot v (G.mulVec v)

/-- xᵀ(Σ JᵢᵀGᵢJᵢ)x written through the link twists Jᵢx -/
noncomputable def massForm (Gs : List (M6 ℝ)) (Jx : List (V6 ℝ)) : ℝ :=
  ((Gs.zip Jx).map fun p => quad p.1 p.2).sum

/-- **positive semi-definite**: every link inertia positive semi-definite ⇒ xᵀMx ≥ 0 for the closed form.  `Jx` stands for
    the link twists Jᵢx; nothing here ties it to a Jacobian, so what is stated is that a sum of link quadratic forms is
    non-negative. -/
theorem massForm_nonneg (Gs : List (M6 ℝ)) (Jx : List (V6 ℝ)) (h : ∀ G ∈ Gs, ∀ v, 0 ≤ quad G v) :
    0 ≤ massForm Gs Jx := by
  unfold massForm
  apply List.sum_nonneg
  intro x hx
  simp only [List.mem_map] at hx
  obtain ⟨p, hp, rfl⟩ := hx
  exact h p.1 (List.of_mem_zip hp).1 p.2

end BR.C08

/-
  C08 (mass matrix) — for the Newton–Euler recursion the library runs, the zero-velocity response to joint accelerations is a
  symmetric, positive semi-definite bilinear form:   τ(a) · b = Σᵢ (Gᵢ V̇ᵢ(a)) · V̇ᵢ(b),
  where V̇ᵢ(x) are the link accelerations of the run with joint accelerations x.  Hence the matrix whose columns MassMatrix
  obtains by calling the recursion on unit accelerations is symmetric when every Gᵢ is, and xᵀMx ≥ 0 when every Gᵢ is
  positive semi-definite — for chains of any length, at every configuration.
-/
namespace BR.C08M
open BR.Dyn BR.C08

noncomputable def dotL : List ℝ → List ℝ → ℝ
  | a :: as, b :: bs => a * b + dotL as bs
  | _, _ => 0

/-- the bilinear form Σᵢ (Gᵢ V̇ᵢ(a)) · V̇ᵢ(b) of the zero-velocity runs with joint accelerations a and b and incoming
    accelerations V̇a, V̇b -/
noncomputable def energyForm : List (Link ℝ) → List ℝ → List ℝ → V6 ℝ → V6 ℝ → ℝ
  | L :: Ls, a :: as, b :: bs, Vda, Vdb =>
    let va := L.AdT.mulVec Vda + V6.smul a L.A
    let vb := L.AdT.mulVec Vdb + V6.smul b L.A
    V6.dot (L.G.mulVec va) vb + energyForm Ls as bs va vb
  | _, _, _, _, _ => 0

/-- **virtual work of the zero-velocity run**: τ(a)·b plus the power of the wrench handed down to the parent through the
    parent's acceleration equals the energy form -/
theorem zero_velocity_power (Ls : List (Link ℝ)) (a b : List ℝ) (hb : b.length = a.length) (Vda Vdb : V6 ℝ) :
    dotL (idyn Ls ((a.map fun _ => (0 : ℝ)).zip a) v6zero Vda v6zero).1 b +
      V6.dot (idyn Ls ((a.map fun _ => (0 : ℝ)).zip a) v6zero Vda v6zero).2 Vdb
      = energyForm Ls a b Vda Vdb := by
  induction Ls generalizing a b Vda Vdb with
  -- without links or without accelerations: no torques, the zero wrench, and no energy
  | nil => exact (zero_add _).trans (V6.dot_zero_left Vdb)
  | cons L Ls ih =>
    match a, b with
    | [], _ => exact (zero_add _).trans (V6.dot_zero_left Vdb)
    | a0 :: as, b0 :: bs =>
      simp only [List.map_cons, List.zip_cons_cons, v6zero_eq, idyn_cons_rest, energyForm, dotL, V6.smul_eq]
      rw [← ih as bs (Nat.succ.inj hb), v6zero_eq]
      -- the wrench of this link meets b's acceleration of this link along the joint axis and through the parent
      -- (only b's acceleration is taken apart; a's stays whole under L.G)
      simp only [M6.dot_T_mulVec, V6.dot_add_right, V6.dot_smul_right, V6.dot_add_left]
      ring

def SymG (G : M6 ℝ) : Prop := ∀ u v : V6 ℝ, V6.dot (G.mulVec u) v = V6.dot u (G.mulVec v)

theorem energyForm_symm (Ls : List (Link ℝ)) (h : ∀ L ∈ Ls, SymG L.G) (a b : List ℝ) (Vda Vdb : V6 ℝ) :
    energyForm Ls a b Vda Vdb = energyForm Ls b a Vdb Vda := by
  induction Ls generalizing a b Vda Vdb with
  | nil => simp [energyForm]
  | cons L Ls ih =>
    cases a <;> cases b <;> simp only [energyForm]
    rw [ih (fun L' hL' => h L' (List.mem_cons_of_mem _ hL')), h L (by simp), V6.dot_comm]

theorem energyForm_nonneg (Ls : List (Link ℝ)) (h : ∀ L ∈ Ls, ∀ v, 0 ≤ quad L.G v) (a : List ℝ) (Vda : V6 ℝ) :
    0 ≤ energyForm Ls a a Vda Vda := by
  induction Ls generalizing a Vda with
  | nil => simp [energyForm]
  | cons L Ls ih =>
    cases a with
    | nil => simp [energyForm]
    | cons a0 as =>
      -- the term of this link is `quad L.G` of its acceleration, the rest is the form of the remaining links
      rw [energyForm, V6.dot_comm]
      exact add_nonneg (h L List.mem_cons_self _) (ih (fun L' hL' => h L' (List.mem_cons_of_mem _ hL')) as _)

/-- M·a: MassMatrix gets its columns as this run on the unit accelerations -/
noncomputable def massResponse (Ls : List (Link ℝ)) (a : List ℝ) : List ℝ :=
  (idyn Ls ((a.map fun _ => (0 : ℝ)).zip a) v6zero v6zero v6zero).1

theorem dotL_massResponse (Ls : List (Link ℝ)) (a b : List ℝ) (hab : b.length = a.length) :
    dotL (massResponse Ls a) b = energyForm Ls a b 0 0 := by
  have h := zero_velocity_power Ls a b hab v6zero v6zero
  rwa [v6zero_eq, V6.dot_zero_right, add_zero] at h

/-- **M is symmetric**: (M a)·b = (M b)·a for the mass matrix the recursion defines, when the link inertias are symmetric -/
theorem mass_symmetric (Ls : List (Link ℝ)) (h : ∀ L ∈ Ls, SymG L.G) (a b : List ℝ) (hab : b.length = a.length) :
    dotL (massResponse Ls a) b = dotL (massResponse Ls b) a := by
  rw [dotL_massResponse Ls a b hab, dotL_massResponse Ls b a hab.symm, energyForm_symm Ls h]

/-- **M is positive semi-definite**: aᵀ M a ≥ 0 for the mass matrix the recursion defines, when the link inertias are -/
theorem mass_nonneg (Ls : List (Link ℝ)) (h : ∀ L ∈ Ls, ∀ v, 0 ≤ quad L.G v) (a : List ℝ) :
    0 ≤ dotL (massResponse Ls a) a := by
  rw [dotL_massResponse Ls a a rfl]
  exact energyForm_nonneg Ls h a 0

end BR.C08M

/-
  C08 — "forward dynamics inverts inverse dynamics".

  ForwardDynamics(θ, θ̇, τ, g, F) = inv(MassMatrix(θ)) · (τ − c(θ, θ̇) − g(θ) − JᵀF)   (np.linalg.inv: an oracle).
  Whatever the oracle returns, if it solves the linear system — the zero-velocity response of the recursion to the returned
  accelerations x equals τ − c − g − JᵀF — then running the inverse dynamics on (θ̇, x) with the same gravity and tip wrench gives
  back τ, for chains of any length and every state.  (The response is the product MassMatrix · x because the zero-velocity run is
  linear in the accelerations: `massResponse_add`, `massResponse_smul`.)
-/
namespace BR.C08F
open BR.Dyn BR.C08 BR.C08M

theorem idyn_length (Ls : List (Link ℝ)) (rs : List (ℝ × ℝ)) (Vp Vdp F : V6 ℝ) :
    (idyn Ls rs Vp Vdp F).1.length = min Ls.length rs.length := by
  induction Ls generalizing rs Vp Vdp with
  -- without links or without rates the recursion returns no torques (by definition)
  | nil => exact (Nat.zero_min _).symm
  | cons L Ls ih =>
    match rs with
    | [] => exact (Nat.min_zero _).symm
    | (d, dd) :: rs => simp only [idyn, List.length_cons, ih, Nat.add_min_add_right]

def subL : List ℝ → List ℝ → List ℝ
  | a :: as, b :: bs => (a - b) :: subL as bs
  | _, _ => []

theorem subL_eq_zipWith (a b : List ℝ) : subL a b = List.zipWith (· - ·) a b := by
  induction a generalizing b with
  | nil => rfl
  | cons x a ih => cases b with
    | nil => rfl
    | cons y b => rw [subL, ih, List.zipWith_cons_cons]

theorem eq_subL_iff (m τ s : List ℝ) (hm : m.length = s.length) (hτ : τ.length = s.length) :
    m = subL τ s ↔ addL m s = τ := by
  rw [addL_eq_zipWith, subL_eq_zipWith]
  constructor <;> rintro rfl <;> apply List.ext_getElem <;> simp [hm, hτ]

/-- the torque decomposition read backwards -/
theorem solve_iff (Ls : List (Link ℝ)) (dθ x τ : List ℝ) (hx : x.length = dθ.length) (hτ : τ.length = dθ.length)
    (hL : Ls.length = dθ.length) (a F : V6 ℝ) :
    (let zeros := dθ.map fun _ => (0 : ℝ);
      (idyn Ls (zeros.zip x) v6zero v6zero v6zero).1 =
        subL τ (addL (addL (idyn Ls (dθ.zip zeros) v6zero v6zero v6zero).1 (idyn Ls (zeros.zip zeros) v6zero a v6zero).1)
                     (idyn Ls (zeros.zip zeros) v6zero v6zero F).1)) ↔
    (idyn Ls (dθ.zip x) v6zero a F).1 = τ := by
  have hd := torque_decomposition Ls dθ x hx a F
  simp only at hd ⊢
  rw [hd]
  simp only [addL_assoc]
  apply eq_subL_iff <;> simp [addL_eq_zipWith, idyn_length, hL, hx, hτ]

/-- **forward dynamics inverts inverse dynamics**: if the accelerations `x` returned by the linear solve satisfy
    M·x = τ − c − g − JᵀF (with the four terms as the library computes them), then InverseDynamics(θ̇, x, gravity, F) = τ -/
theorem inverse_of_forward (Ls : List (Link ℝ)) (dθ x τ : List ℝ) (hx : x.length = dθ.length) (hτ : τ.length = dθ.length)
    (hL : Ls.length = dθ.length) (a F : V6 ℝ)
    (hsolve :
      let zeros := dθ.map fun _ => (0 : ℝ)
      (idyn Ls (zeros.zip x) v6zero v6zero v6zero).1 =
        subL τ (addL (addL (idyn Ls (dθ.zip zeros) v6zero v6zero v6zero).1 (idyn Ls (zeros.zip zeros) v6zero a v6zero).1)
                     (idyn Ls (zeros.zip zeros) v6zero v6zero F).1)) :
    (idyn Ls (dθ.zip x) v6zero a F).1 = τ :=
  (solve_iff Ls dθ x τ hx hτ hL a F).mp hsolve

theorem zeros_congr {a b : List ℝ} (h : b.length = a.length) :
    (b.map fun _ => (0 : ℝ)) = a.map fun _ => (0 : ℝ) := by
  rw [List.map_const', List.map_const', h]

/-- the zero-velocity response is additive and (`massResponse_smul`) homogeneous in the accelerations, so it is the
    matrix–vector product MassMatrix · x -/
theorem massResponse_add (Ls : List (Link ℝ)) (a b : List ℝ) (h : b.length = a.length) :
    massResponse Ls ((a.zip b).map fun p => p.1 + p.2) = addL (massResponse Ls a) (massResponse Ls b) := by
  unfold massResponse
  have s := (id_superposition Ls (a.map fun _ => (0 : ℝ)) a b (by simp) (by simp [h]) v6zero v6zero v6zero v6zero v6zero).1
  -- the lists of zeros in `s` and in the goal are all made from lists as long as `a`
  rw [zeros_congr (a := a) (List.length_map _), v6zero_eq, add_zero] at s
  rw [zeros_congr (a := a) (b := (a.zip b).map fun p => p.1 + p.2) (by simp [h]), zeros_congr h]
  exact s

theorem idyn_rest_smul (k : ℝ) (Ls : List (Link ℝ)) (a : List ℝ) (Vd F : V6 ℝ) :
    idyn Ls ((a.map fun _ => (0 : ℝ)).zip (a.map fun t => k * t)) 0 (k • Vd) (k • F) =
      ((idyn Ls ((a.map fun _ => (0 : ℝ)).zip a) 0 Vd F).1.map (fun t => k * t),
        k • (idyn Ls ((a.map fun _ => (0 : ℝ)).zip a) 0 Vd F).2) := by
  -- used twice below; stated once because matching `smul_add` against the instances of `V6 ℝ` is dear
  have hk : ∀ u v : V6 ℝ, k • u + k • v = k • (u + v) := fun u v => (smul_add k u v).symm
  induction Ls generalizing a Vd with
  | nil => rfl
  | cons L Ls ih =>
    cases a with
    | nil => rfl
    | cons t ts =>
      simp only [List.map_cons, List.zip_cons_cons, idyn_cons_rest]
      -- the acceleration of this link, Ad(k V̇) + (k t) A, is k times that of the other run; so (`ih`) are the torques
      -- and the wrench beyond it, and then its own wrench, its torque and what it hands down
      rw [M6.mulVec_smul, mul_smul, hk, ih, M6.mulVec_smul, hk, V6.dot_smul_left, M6.mulVec_smul]

theorem massResponse_smul (Ls : List (Link ℝ)) (k : ℝ) (a : List ℝ) :
    massResponse Ls (a.map fun t => k * t) = (massResponse Ls a).map (fun t => k * t) := by
  unfold massResponse
  have h := idyn_rest_smul k Ls a 0 0
  rw [smul_zero] at h
  rw [zeros_congr (a := a) (List.length_map _), v6zero_eq, h]

/-- non-vacuity of `inverse_of_forward`, for every chain and state: the torques τ that the inverse dynamics returns for any
    accelerations x make x a solution of the linear system (so the hypothesis `hsolve` is met by (x, τ)) -/
theorem solve_hypothesis_met (Ls : List (Link ℝ)) (dθ x : List ℝ) (hx : x.length = dθ.length) (hL : Ls.length = dθ.length) (a F : V6 ℝ) :
    let zeros := dθ.map fun _ => (0 : ℝ)
    (idyn Ls (zeros.zip x) v6zero v6zero v6zero).1 =
      subL (idyn Ls (dθ.zip x) v6zero a F).1
        (addL (addL (idyn Ls (dθ.zip zeros) v6zero v6zero v6zero).1 (idyn Ls (zeros.zip zeros) v6zero a v6zero).1)
              (idyn Ls (zeros.zip zeros) v6zero v6zero F).1) :=
  (solve_iff Ls dθ x _ hx (by simp [idyn_length, hL, hx]) hL a F).mpr rfl

end BR.C08F
