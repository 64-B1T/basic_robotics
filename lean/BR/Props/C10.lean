/-
  C10 — Stewart platform: the published state stays coherent over any history and a verdict of
  "valid" means that every enabled constraint holds.

  The theorems are about the state machine of BR/Model/SP.lean and hold for *every* scalar instance
  (so also for the Float instance the correspondence check runs), for every history and for every value
  the numeric solvers may return (they are universally quantified oracle inputs).
-/
import BR.Model.SP

namespace BR.C10
open BR.SP BR.MR

variable {α : Type} [Scalar α]

/-- the published state is coherent: joint positions are the plate poses applied to the plate-fixed joint
    coordinates, leg lengths are the joint-to-joint distances, the relative transform is inv(bottom)·top -/
def Coh (s : St α) : Prop :=
  s.bs = s.legs.map (fun l => trVec s.Tb l.b) ∧
  s.ts = s.legs.map (fun l => trVec s.Tt l.t) ∧
  s.lens = s.legs.map (fun l => norm3 (trVec s.Tt l.t - trVec s.Tb l.b)) ∧
  s.rel = transInv s.Tb * s.Tt

/-- **the IK helper followed by the plate update establishes coherence, whatever the state was** -/
theorem coh_ikP (s : St α) (Tt Tb : T4 α) : Coh (ikP s Tt Tb) := by
  unfold Coh ikP setPlate ikHelper spIK
  simp

@[simp] theorem ikP_Tb (s : St α) (Tt Tb : T4 α) : (ikP s Tt Tb).Tb = Tb := rfl
@[simp] theorem ikP_Tt (s : St α) (Tt Tb : T4 α) : (ikP s Tt Tb).Tt = Tt := rfl
@[simp] theorem ikP_set0 (s : St α) (Tt Tb : T4 α) : (ikP s Tt Tb).set0 = s.set0 := rfl
@[simp] theorem ikP_set1 (s : St α) (Tt Tb : T4 α) : (ikP s Tt Tb).set1 = s.set1 := rfl
@[simp] theorem ikP_set2 (s : St α) (Tt Tb : T4 α) : (ikP s Tt Tb).set2 = s.set2 := rfl
@[simp] theorem ikP_set3 (s : St α) (Tt Tb : T4 α) : (ikP s Tt Tb).set3 = s.set3 := rfl

theorem coh_setPlate_ikHelper (s : St α) (Tt Tb : T4 α) : Coh (setPlate (ikHelper s Tt Tb) Tb Tt) := coh_ikP s Tt Tb

theorem ikP_good (s : St α) (Tt Tb : T4 α) : (ikP s Tt Tb).Tb = Tb ∧ (ikP s Tt Tb).Tt = Tt ∧ Coh (ikP s Tt Tb) :=
  ⟨rfl, rfl, coh_ikP s Tt Tb⟩

/-! ### solvers: whatever they return, the platform ends coherent with the poses it reports -/

theorem fkRaphsonNF_good (p : Par α) (s : St α) (bottom : T4 α) (o : List (Sol α))
    {b t : T4 α} {s' : St α} {o' : List (Sol α)} (h : fkRaphsonNF p s bottom o = some (b, t, s', o')) :
    s'.Tb = b ∧ s'.Tt = t ∧ Coh s' := by
  unfold fkRaphsonNF at h
  split at h <;> cases h <;> exact ikP_good _ _ _

theorem fkSolve_good (p : Par α) (s : St α) (L : List α) (bottom : T4 α) (protect : Bool) (o : List (Sol α))
    {b t : T4 α} {s' : St α} {o' : List (Sol α)} (h : fkSolve p s L bottom protect o = some (b, t, s', o')) :
    s'.Tb = b ∧ s'.Tt = t ∧ Coh s' := by
  unfold fkSolve at h
  split at h
  · dsimp only at h
    split at h
    · exact fkRaphsonNF_good _ _ _ _ h
    · cases h
      split <;> exact ikP_good _ _ _
  · cases h

theorem fkRaphson_good (p : Par α) (s : St α) (L : List α) (bottom : T4 α) (protect : Bool) (o : List (Sol α))
    {b t : T4 α} {s' : St α} {o' : List (Sol α)} (h : fkRaphson p s L bottom protect o = some (b, t, s', o')) :
    s'.Tb = b ∧ s'.Tt = t ∧ Coh s' := by
  unfold fkRaphson at h
  split at h
  · exact fkSolve_good _ _ _ _ _ _ h
  · exact fkSolve_good _ _ _ _ _ _ h
  · exact fkRaphsonNF_good _ _ _ _ h

/-- after the solver, over the poses the platform stands at: the repair rewrites everything from the new top pose;
    otherwise only the relative transform is replaced, by the value it already has -/
theorem fkFinish_coh (s : St α) (o : List (Sol α)) (hc : Coh s)
    {t' : T4 α} {s' : St α} {o' : List (Sol α)} (h : fkFinish s.Tb s.Tt s o = some (t', s', o')) : Coh s' := by
  unfold fkFinish at h
  split at h
  · cases h
    exact ⟨hc.1, hc.2.1, hc.2.2.1, rfl⟩
  · split at h
    · cases h
      exact coh_ikP s _ s.Tb
    · cases h

theorem fkCoreAt_coh (p : Par α) (s : St α) (L : List α) (B : T4 α) (o : List (Sol α)) (protect : Bool)
    {top : T4 α} {s' : St α} {o' : List (Sol α)} (h : fkCoreAt p s L B o protect = some (top, s', o')) : Coh s' := by
  unfold fkCoreAt at h
  split at h
  · cases h
  · rename_i bottom top0 s1 o1 hr
    obtain ⟨rfl, rfl, hc⟩ : s1.Tb = bottom ∧ s1.Tt = top0 ∧ Coh s1 := by
      unfold fkSolverAt at hr
      split at hr
      · exact fkSolve_good _ _ _ _ _ _ hr
      · exact fkRaphson_good _ _ _ _ _ _ hr
    exact fkFinish_coh _ _ hc h

theorem fkCore_coh (p : Par α) (s : St α) (L : List α) (o : List (Sol α)) (protect : Bool)
    {top : T4 α} {s' : St α} {o' : List (Sol α)} (h : fkCore p s L o protect = some (top, s', o')) : Coh s' :=
  fkCoreAt_coh p s L s.Tb o protect h

/-- what `validate(True)` (all four stages) returning true means -/
def AllHold (p : Par α) (s : St α) : Prop :=
  distC p s = false ∧ (s.set0 = true → legC p s = true) ∧ (s.set1 = true → contC s = true) ∧
  (s.set2 = true → intC p s = true) ∧ (s.set3 = true → rotC p s = true)

/-- one switchable stage of `validateDN`: it counts only if the limit admits it and its switch is on -/
theorem stage_iff {a : Prop} [Decidable a] {b v c : Bool} :
    (if a ∧ b = true then v && c else v) = true ↔ v = true ∧ (a → b = true → c = true) := by
  by_cases ha : a <;> cases b <;> simp [ha]

theorem validateDN_iff (p : Par α) (s : St α) (k : Nat) : validateDN p s k = true ↔
    distC p s = false ∧ (0 < k → s.set0 = true → legC p s = true) ∧ (1 < k → s.set1 = true → contC s = true) ∧
    (2 < k → s.set2 = true → intC p s = true) ∧ (3 < k → s.set3 = true → rotC p s = true) := by
  simp only [validateDN, stage_iff, Bool.not_eq_true', and_assoc]

/-- **the pure validation tells the truth**: it returns true exactly when the platform is not farther than twice
    its neutral height and every enabled constraint holds -/
theorem validateDN_sound (p : Par α) (s : St α) : validateDN p s 4 = true ↔ AllHold p s := by
  simp [validateDN_iff, AllHold]

-- stage view of `validateDN`: one more stage is one more conjunct
theorem validateDN_zero (p : Par α) (s : St α) : validateDN p s 0 = !distC p s := by
  simp [validateDN]
theorem validateDN_one (p : Par α) (s : St α) :
    validateDN p s 1 = true ↔ validateDN p s 0 = true ∧ (s.set0 = true → legC p s = true) := by
  simp [validateDN_iff]
theorem validateDN_two (p : Par α) (s : St α) :
    validateDN p s 2 = true ↔ validateDN p s 1 = true ∧ (s.set1 = true → contC s = true) := by
  simp [validateDN_iff, and_assoc]
theorem validateDN_three (p : Par α) (s : St α) :
    validateDN p s 3 = true ↔ validateDN p s 2 = true ∧ (s.set2 = true → intC p s = true) := by
  simp [validateDN_iff, and_assoc]
theorem validateDN_four (p : Par α) (s : St α) :
    validateDN p s 4 = true ↔ validateDN p s 3 = true ∧ (s.set3 = true → rotC p s = true) := by
  simp [validateDN_iff, and_assoc]

/-- what one stage of `validate()` does to (verdict, state): nothing, its constraint being met or switched off; or a
    corrective action, which leaves a coherent state and re-derives the verdict on it by `validate(True, lim)` -/
def StageOut (p : Par α) (en c : St α → Bool) (lim : Nat) (vs vs' : Bool × St α) : Prop :=
  (vs' = vs ∧ (en vs.2 = true → c vs.2 = true)) ∨ (vs'.1 = validateDN p vs'.2 lim ∧ Coh vs'.2)

theorem StageOut.coh {p : Par α} {en c : St α → Bool} {lim : Nat} {vs vs' : Bool × St α}
    (h : StageOut p en c lim vs vs') (hs : Coh vs.2) : Coh vs'.2 := by
  rcases h with ⟨rfl, _⟩ | ⟨_, hc⟩
  · exact hs
  · exact hc

/-- a stage carries "the verdict is `validate(True, k)` of the state" from `k` to its own limit, given the stage view of
    `validateDN` between the two: a stage that did nothing found its conjunct true, a re-derived verdict is the claim itself -/
theorem StageOut.verdict {p : Par α} {en c : St α → Bool} {k lim : Nat} {vs vs' : Bool × St α}
    (hlim : ∀ s, validateDN p s lim = true ↔ validateDN p s k = true ∧ (en s = true → c s = true))
    (h : StageOut p en c lim vs vs') (hk : vs.1 = validateDN p vs.2 k) : vs'.1 = validateDN p vs'.2 lim := by
  rcases h with ⟨rfl, hc⟩ | ⟨hv, _⟩
  · rw [hk, Bool.eq_iff_iff, hlim, and_iff_left hc]
  · exact hv

theorem vStage_out (p : Par α) (en c : St α → Bool) (lim : Nat) (vs : Bool × St α) :
    StageOut p en c lim vs (vStage p en c lim vs) := by
  unfold vStage
  split
  · split
    · rename_i hc
      exact .inl ⟨rfl, fun _ => hc⟩
    · exact .inr ⟨rfl, coh_ikP _ _ _⟩
  · rename_i he
    exact .inl ⟨rfl, fun h => absurd h he⟩

theorem vLegs_out (p : Par α) (s : St α) (o : List (Sol α)) (v : Bool)
    {v' : Bool} {s' : St α} {o' : List (Sol α)} (h : vLegs p s o v = some (v', s', o')) :
    StageOut p (·.set0) (legC p) 1 (v, s) (v', s') := by
  unfold vLegs at h
  split at h
  · split at h
    · rename_i hl
      cases h
      exact .inl ⟨rfl, fun _ => hl⟩
    · split at h
      · rename_i hk
        cases h
        exact .inr ⟨rfl, fkCore_coh _ _ _ _ _ hk⟩
      · cases h
  · rename_i h0
    cases h
    exact .inl ⟨rfl, fun h => absurd h h0⟩

theorem validate_stages {p : Par α} {s : St α} {o : List (Sol α)} {v : Bool} {s' : St α} {o' : List (Sol α)}
    (h : validate p s o = some (v, s', o')) : ∃ vs1 vs2 vs3,
      StageOut p (·.set0) (legC p) 1 (!distC p s, s) vs1 ∧ StageOut p (·.set1) contC 2 vs1 vs2 ∧
      StageOut p (·.set2) (intC p) 3 vs2 vs3 ∧ StageOut p (·.set3) (rotC p) 4 vs3 (v, s') := by
  unfold validate at h
  split at h
  · cases h
  · rename_i hl
    cases h
    exact ⟨_, _, _, vLegs_out _ _ _ _ hl, vStage_out .., vStage_out .., vStage_out ..⟩

theorem validate_coh (p : Par α) (s : St α) (o : List (Sol α)) (hs : Coh s)
    {v : Bool} {s' : St α} {o' : List (Sol α)} (h : validate p s o = some (v, s', o')) : Coh s' := by
  obtain ⟨_, _, _, h1, h2, h3, h4⟩ := validate_stages h
  exact h4.coh (h3.coh (h2.coh (h1.coh hs)))

/-- the verdict of `validate()`, whatever corrective actions it took, is `validate(True)` of the state it leaves -/
theorem validate_verdict {p : Par α} {s : St α} {o : List (Sol α)} {v : Bool} {s' : St α} {o' : List (Sol α)}
    (h : validate p s o = some (v, s', o')) : v = validateDN p s' 4 := by
  obtain ⟨_, _, _, h1, h2, h3, h4⟩ := validate_stages h
  exact h4.verdict (validateDN_four p) (h3.verdict (validateDN_three p) (h2.verdict (validateDN_two p)
    (h1.verdict (validateDN_one p) (validateDN_zero p s).symm)))

/-- **"valid" means valid**: whenever `validate()` — with any corrective actions it took and whatever the solvers
    returned inside them — reports true, the state it leaves satisfies every enabled constraint -/
theorem validate_sound (p : Par α) (s : St α) (o : List (Sol α))
    {s' : St α} {o' : List (Sol α)} (h : validate p s o = some (true, s', o')) : AllHold p s' :=
  (validateDN_sound p s').1 (validate_verdict h).symm

theorem vStage_noop (p : Par α) (en c : St α → Bool) (lim : Nat) (vs : Bool × St α)
    (h : en vs.2 = true → c vs.2 = true) : vStage p en c lim vs = vs := by
  unfold vStage
  split
  · rw [if_pos (h ‹_›)]
  · rfl

theorem vLegs_noop (p : Par α) (s : St α) (o : List (Sol α)) (v : Bool)
    (h : s.set0 = true → legC p s = true) : vLegs p s o v = some (v, s, o) := by
  unfold vLegs
  split
  · rw [if_pos (h ‹_›)]
  · rfl

theorem ik_coh (p : Par α) (s : St α) (Tt Tb : T4 α) (o : List (Sol α))
    {v : Bool} {s' : St α} {o' : List (Sol α)} (h : ik p s Tt Tb o = some (v, s', o')) : Coh s' :=
  validate_coh p _ o (coh_ikP s Tt Tb) h

theorem fkReverse_coh (p : Par α) (savedTop top : T4 α) (v : Bool) (s : St α) (o : List (Sol α))
    {t' : T4 α} {v' : Bool} {s' : St α} {o' : List (Sol α)} (h : fkReverse p savedTop top v s o = some (t', v', s', o')) : Coh s' := by
  unfold fkReverse at h
  split at h
  · cases h
  · rename_i hi
    cases h
    exact ik_coh p _ _ _ _ hi

/-- `fkAt` in bind form (core, then validation unless protected, then the reversed tail or the result), so that its
    users peel the stages with `Option.bind_eq_some_iff` instead of nested `split`s -/
theorem fkAt_eq (p : Par α) (s : St α) (L : List α) (B : T4 α) (rev prot : Bool) (o : List (Sol α)) :
    fkAt p s L B rev prot o =
      (fkCoreAt p s L (if rev then s.Tb else B) o prot).bind fun (top, s1, o1) =>
        (if prot then some (true, s1, o1) else validate p s1 o1).bind fun (v, s2, o2) =>
          if rev then fkReverse p s.Tt top v s2 o2 else some (top, v, s2, o2) := by
  unfold fkAt
  cases fkCoreAt p s L (if rev then s.Tb else B) o prot with
  | none => rfl
  | some r =>
    cases prot with
    | true => rfl
    | false =>
      dsimp only [Option.bind_some]
      cases validate p r.2.1 r.2.2 <;> rfl

theorem fkAt_coh (p : Par α) (s : St α) (L : List α) (B : T4 α) (rev prot : Bool) (o : List (Sol α))
    {top : T4 α} {v : Bool} {s' : St α} {o' : List (Sol α)} (h : fkAt p s L B rev prot o = some (top, v, s', o')) : Coh s' := by
  rw [fkAt_eq] at h
  obtain ⟨⟨top1, s1, o1⟩, hc, h⟩ := Option.bind_eq_some_iff.1 h
  obtain ⟨⟨v2, s2, o2⟩, hv, h⟩ := Option.bind_eq_some_iff.1 h
  dsimp only at hv h
  have h1 := fkCoreAt_coh p s L _ o prot hc
  have h2 : Coh s2 := by
    split at hv
    · cases hv
      exact h1
    · exact validate_coh p s1 o1 h1 hv
  split at h
  · exact fkReverse_coh _ _ _ _ _ _ h
  · cases h
    exact h2

theorem fk_coh (p : Par α) (s : St α) (L : List α) (rev prot : Bool) (o : List (Sol α))
    {top : T4 α} {v : Bool} {s' : St α} {o' : List (Sol α)} (h : fk p s L rev prot o = some (top, v, s', o')) : Coh s' :=
  fkAt_coh p s L s.Tb rev prot o h

/-- the verdict of an unprotected, non-reversed FK is sound — over whatever bottom pose the caller gave -/
theorem fkAt_sound (p : Par α) (s : St α) (L : List α) (B : T4 α) (o : List (Sol α))
    {top : T4 α} {s' : St α} {o' : List (Sol α)} (h : fkAt p s L B false false o = some (top, true, s', o')) : AllHold p s' := by
  rw [fkAt_eq] at h
  obtain ⟨⟨top1, s1, o1⟩, -, h⟩ := Option.bind_eq_some_iff.1 h
  obtain ⟨⟨v2, s2, o2⟩, hv, h⟩ := Option.bind_eq_some_iff.1 h
  cases h
  exact validate_sound p s1 o1 hv

theorem move_coh (p : Par α) (s : St α) (T : T4 α) (o : List (Sol α))
    {s' : St α} {o' : List (Sol α)} (h : move p s T o = some (s', o')) : Coh s' := by
  unfold move at h
  dsimp only at h
  split at h
  · cases h
  · rename_i hi
    cases h
    exact ik_coh p _ _ _ _ hi

theorem spin_coh (p : Par α) (s : St α) (r : α) (o : List (Sol α))
    {s' : St α} {o' : List (Sol α)} (h : spinCustom p s r o = some (s', o')) : Coh s' := by
  unfold spinCustom at h
  split at h
  · cases h
  · split at h
    · cases h
    · split at h
      · cases h
      · exact move_coh p _ _ _ h

theorem invJac_coh (p : Par α) (s : St α) (prot : Bool) (o : List (Sol α))
    {rows : List (V6 α)} {s' : St α} {o' : List (Sol α)} (h : inverseJacobian p s prot o = some (rows, s', o')) :
    s'.Tb = s.Tb ∧ s'.Tt = s.Tt ∧ Coh s' := by
  unfold inverseJacobian at h
  split at h
  · cases h
    exact ikP_good _ _ _
  · split at h
    · cases h
    · cases h
      exact ikP_good _ _ _

/-- **pure queries leave both plate poses unchanged** (inverseJacobian, staticForces, carryMassCalc: with or
    without protection, whatever corrective action the query's own IK triggered) -/
theorem inverseJacobian_restores (p : Par α) (s : St α) (prot : Bool) (o : List (Sol α))
    {rows : List (V6 α)} {s' : St α} {o' : List (Sol α)} (h : inverseJacobian p s prot o = some (rows, s', o')) :
    s'.Tb = s.Tb ∧ s'.Tt = s.Tt :=
  ⟨(invJac_coh p s prot o h).1, (invJac_coh p s prot o h).2.1⟩

theorem randomPos_coh (p : Par α) (d : α) (Ls : List (List α)) (s : St α) (o : List (Sol α)) (hs : Coh s)
    {s' : St α} {o' : List (Sol α)} (h : randomPos p d Ls s o = some (s', o')) : Coh s' := by
  induction Ls generalizing s o with
  | nil =>
    cases h
    exact hs
  | cons L Ls ih =>
    simp only [randomPos] at h
    split at h
    · cases h
    · rename_i t1 v1 s1 o1 hf
      have h1 := fk_coh p s L false false o hf
      split at h
      · cases h
      · rename_i v2 s2 o2 hv
        have h2 := validate_coh p s1 o1 h1 hv
        split at h
        · cases h
          exact h2
        · exact ih s2 o2 h2 h

/-- `step` repackages the result `r` of the call it makes; the state it returns is the state in `r` -/
theorem coh_of_map {γ : Type} {x : Option γ} {f : γ → Option Bool × St α × Nat} {v : Option Bool} {s' : St α} {n : Nat}
    (h : x.map f = some (v, s', n)) (hx : ∀ r, x = some r → Coh (f r).2.1) : Coh s' := by
  obtain ⟨r, hr, hf⟩ := Option.map_eq_some_iff.1 h
  have hc := hx r hr
  rwa [hf] at hc

/-- **every public call preserves coherence**, whatever the numeric solvers returned during it -/
theorem op_coherent (p : Par α) (s : St α) (op : Op α) (hs : Coh s)
    {v : Option Bool} {s' : St α} {n : Nat} (h : step p s op = some (v, s', n)) : Coh s' := by
  cases op with
  | ik Tt o => exact coh_of_map h fun _ hr => ik_coh p _ _ _ _ hr
  | fk L rev prot o => exact coh_of_map h fun _ hr => fk_coh p _ _ _ _ _ hr
  | fkAt L B rev prot o => exact coh_of_map h fun _ hr => fkAt_coh p _ _ _ _ _ _ hr
  | move T o => exact coh_of_map h fun _ hr => move_coh p _ _ _ hr
  | spin r o => exact coh_of_map h fun _ hr => spin_coh p _ _ _ hr
  | validate o => exact coh_of_map h fun _ hr => validate_coh p _ _ hs hr
  | invJac prot o => exact coh_of_map h fun _ hr => (invJac_coh p _ _ _ hr).2.2
  | randomPos d Ls o => exact coh_of_map h fun _ hr => randomPos_coh p _ _ _ _ hs hr
  | validateDN | switches a b c d | mode m =>
    cases h
    exact hs

/-- the verdict a call returns is sound whenever it comes from a validation of the state it leaves
    (IK, unprotected forward FK, validate, validate(True)) -/
theorem op_verdict_sound (p : Par α) (s : St α) (op : Op α) {s' : St α} {n : Nat}
    (h : step p s op = some (some true, s', n))
    (hop : match op with | Op.ik _ _ => True | Op.validate _ => True | Op.validateDN => True
                         | Op.fk _ false false _ => True | Op.fkAt _ _ false false _ => True | _ => False) : AllHold p s' := by
  cases op with
  | fk L rev prot o | fkAt L B rev prot o =>
    cases rev <;> cases prot <;> simp only at hop
    obtain ⟨⟨t1, v1, s1, o1⟩, h1, h2⟩ := Option.map_eq_some_iff.1 h
    cases h2
    exact fkAt_sound p _ _ _ _ h1
  | ik Tt o | validate o =>
    obtain ⟨⟨v1, s1, o1⟩, h1, h2⟩ := Option.map_eq_some_iff.1 h
    cases h2
    exact validate_sound p _ _ h1
  | validateDN =>
    simp only [step, Option.some.injEq, Prod.mk.injEq] at h
    obtain ⟨hv, rfl, _⟩ := h
    exact (validateDN_sound p _).1 hv
  | _ => simp only at hop

/-- **any history**: from a coherent platform, every state reached by any sequence of public calls is coherent -/
theorem history_coherent (p : Par α) (s : St α) (ops : List (Op α)) (hs : Coh s)
    {s' : St α} (h : run p s ops = some s') : Coh s' := by
  induction ops generalizing s with
  | nil =>
    cases h
    exact hs
  | cons op ops ih =>
    simp only [run] at h
    split at h
    · rename_i v s1 n hst
      exact ih s1 (op_coherent p s op hs hst) h
    · cases h

/-- the platform a constructor builds (protected IK on the given poses) is coherent — the hypothesis of
    `history_coherent` is met by every constructed platform -/
example (s0 : St α) (Tt Tb : T4 α) : Coh (ikP s0 Tt Tb) := coh_ikP s0 Tt Tb

end BR.C10
