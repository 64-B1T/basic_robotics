/-
  C12 — wrenches and screws change frame as a group action and add as vectors.
  Property theorems about BR/Model/Screw.lean at ℝ.
-/
import BR.Props.C04
import BR.Model.Screw

namespace BR.C12
open BR.MR BR.Rot BR.TmModel BR.ScrewModel BR.C03 BR.C04

/-- a frame: a coherent transform object in SE(3) (what C03 shows every tm is) -/
def FrameOK (t : Tm ℝ) : Prop := WF t ∧ Coherent t

/-- relative rotation of two frames is outside the (0, 1e-6) cut-off band -/
def RelAngleOK (ref x : Tm ℝ) : Prop := AngleOK (transInv ref.TM * x.TM).R

theorem relTM_eq (ref x : Tm ℝ) (hr : FrameOK ref) (hx : FrameOK x) (hA : RelAngleOK ref x) :
    relTM ref x = transInv ref.TM * x.TM :=
  globalToLocal_eq ref x hr.2 hx.2 hr.1 hx.1 hA

/-- stated so that `adjoint_mul_mulVec` is handed a hypothesis of the form it asks for: given `isRot_mul (isRot_T hA) hB`
    directly, unification has to see through the structure eta of `(transInv A * B).R`, at fifteen times the cost -/
theorem rel_isRot (A B : T4 ℝ) (hA : IsRot A.R) (hB : IsRot B.R) : IsRot (transInv A * B).R :=
  isRot_mul (isRot_T hA) hB

theorem rel_compose (A B C : T4 ℝ) (hB : IsRot B.R) :
    (transInv A * B) * (transInv B * C) = transInv A * C := by
  rw [T4_mul_assoc, mul_transInv_cancel_left hB]

/-! ### frame change is the adjoint action -/

theorem screwChange_mk (d : V6 ℝ) (A B : Tm ℝ) (hne : ¬ tmEq A B) (hA : FrameOK A) (hB : FrameOK B)
    (hrel : RelAngleOK B A) : screwChange ⟨d, A⟩ B = ⟨(adjoint (transInv B.TM * A.TM)).mulVec d, B⟩ := by
  unfold screwChange
  rw [if_neg hne, relTM_eq B A hB hA hrel]

theorem wrenchChange_mk (d : V6 ℝ) (A B : Tm ℝ) (hne : ¬ tmEq A B) (hA : FrameOK A) (hB : FrameOK B)
    (hrel : RelAngleOK A B) : wrenchChange ⟨d, A⟩ B = ⟨(adjoint (transInv A.TM * B.TM)).T.mulVec d, B⟩ := by
  unfold wrenchChange
  rw [if_neg hne, relTM_eq A B hA hB hrel]

/-- **twist-like objects: S_b = Ad(inv(B)·A) S_a, and the object records its new frame** -/
theorem screw_change_is_Ad (s : Scr ℝ) (new : Tm ℝ) (hne : ¬ tmEq s.frame new) (hs : FrameOK s.frame)
    (hn : FrameOK new) (hA : RelAngleOK new s.frame) :
    (screwChange s new).data = (adjoint (transInv new.TM * s.frame.TM)).mulVec s.data ∧
    (screwChange s new).frame = new := by
  rw [screwChange_mk s.data s.frame new hne hs hn hA]
  exact ⟨rfl, rfl⟩

/-- **wrenches: F_b = Ad(inv(A)·B)ᵀ F_a** -/
theorem wrench_change_is_AdT (s : Scr ℝ) (new : Tm ℝ) (hne : ¬ tmEq s.frame new) (hs : FrameOK s.frame)
    (hn : FrameOK new) (hA : RelAngleOK s.frame new) :
    (wrenchChange s new).data = (adjoint (transInv s.frame.TM * new.TM)).T.mulVec s.data ∧
    (wrenchChange s new).frame = new := by
  rw [wrenchChange_mk s.data s.frame new hne hs hn hA]
  exact ⟨rfl, rfl⟩

/-- frames closer than 1e-8 in every coordinate are treated as equal: nothing changes -/
theorem change_same_frame (w : Bool) (s : Scr ℝ) (new : Tm ℝ) (h : tmEq s.frame new) : change w s new = s := by
  unfold change screwChange wrenchChange
  split_ifs <;> rfl

theorem adj_rel_compose (A B C : T4 ℝ) (hA : IsRot A.R) (hB : IsRot B.R) (v : V6 ℝ) :
    (adjoint (transInv A * B)).mulVec ((adjoint (transInv B * C)).mulVec v) =
      (adjoint (transInv A * C)).mulVec v := by
  rw [← adjoint_mul_mulVec _ _ (rel_isRot A B hA hB), rel_compose A B C hB]

theorem adjT_rel_compose (A B C : T4 ℝ) (hA : IsRot A.R) (hB : IsRot B.R) (f : V6 ℝ) :
    (adjoint (transInv B * C)).T.mulVec ((adjoint (transInv A * B)).T.mulVec f) =
      (adjoint (transInv A * C)).T.mulVec f := by
  rw [← M6.mulVec_mul, ← M6.T_mul, ← Rot.adjoint_mul _ _ (rel_isRot A B hA hB), rel_compose A B C hB]

theorem adj_rel_self (A : T4 ℝ) (hA : IsRot A.R) (v : V6 ℝ) : (adjoint (transInv A * A)).mulVec v = v := by
  rw [Rot.transInv_mul A hA.1, adjoint_one_mulVec]

theorem adjT_rel_self (A : T4 ℝ) (hA : IsRot A.R) (f : V6 ℝ) : (adjoint (transInv A * A)).T.mulVec f = f := by
  rw [Rot.transInv_mul A hA.1, adjoint_one, M6.T_one, M6.one_mulVec]

/-- **A → B → C equals A → C** (screws) -/
theorem screw_change_compose (d : V6 ℝ) (A B C : Tm ℝ) (hA : FrameOK A) (hB : FrameOK B) (hC : FrameOK C)
    (nAB : ¬ tmEq A B) (nBC : ¬ tmEq B C) (nAC : ¬ tmEq A C)
    (aBA : RelAngleOK B A) (aCB : RelAngleOK C B) (aCA : RelAngleOK C A) :
    (screwChange (screwChange ⟨d, A⟩ B) C).data = (screwChange ⟨d, A⟩ C).data := by
  rw [screwChange_mk d A B nAB hA hB aBA, screwChange_mk _ B C nBC hB hC aCB, screwChange_mk d A C nAC hA hC aCA]
  exact adj_rel_compose C.TM B.TM A.TM hC.1 hB.1 d

theorem not_tmEq_symm {a b : Tm ℝ} (h : ¬ tmEq a b) : ¬ tmEq b a := by
  unfold tmEq at h ⊢
  simpa only [sabs_real', abs_sub_comm] using h

/-- **A → B → A is the identity** (screws) -/
theorem screw_change_roundtrip (d : V6 ℝ) (A B : Tm ℝ) (hA : FrameOK A) (hB : FrameOK B)
    (nAB : ¬ tmEq A B) (aBA : RelAngleOK B A) (aAB : RelAngleOK A B) :
    (screwChange (screwChange ⟨d, A⟩ B) A).data = d := by
  rw [screwChange_mk d A B nAB hA hB aBA, screwChange_mk _ B A (not_tmEq_symm nAB) hB hA aAB]
  exact (adj_rel_compose A.TM B.TM A.TM hA.1 hB.1 d).trans (adj_rel_self A.TM hA.1 d)

/-- **the pairing wrench · twist is the same in every frame** -/
theorem pairing_invariant (f v : V6 ℝ) (A B : Tm ℝ) (hA : FrameOK A) (hB : FrameOK B)
    (nAB : ¬ tmEq A B) (aBA : RelAngleOK B A) (aAB : RelAngleOK A B) :
    V6.dot (wrenchChange ⟨f, A⟩ B).data (screwChange ⟨v, A⟩ B).data = V6.dot f v := by
  rw [wrenchChange_mk f A B nAB hA hB aAB, screwChange_mk v A B nAB hA hB aBA, M6.dot_T_mulVec,
    adj_rel_compose A.TM B.TM A.TM hA.1 hB.1 v, adj_rel_self A.TM hA.1]

/-- **A → B → A is the identity** (wrenches) -/
theorem wrench_change_roundtrip (d : V6 ℝ) (A B : Tm ℝ) (hA : FrameOK A) (hB : FrameOK B)
    (nAB : ¬ tmEq A B) (aBA : RelAngleOK B A) (aAB : RelAngleOK A B) :
    (wrenchChange (wrenchChange ⟨d, A⟩ B) A).data = d := by
  rw [wrenchChange_mk d A B nAB hA hB aAB, wrenchChange_mk _ B A (not_tmEq_symm nAB) hB hA aBA]
  exact (adjT_rel_compose A.TM B.TM A.TM hA.1 hB.1 d).trans (adjT_rel_self A.TM hA.1 d)

/-! ### forces at points -/

/-- a force applied at a point has moment p × f about the frame origin -/
theorem moment_is_p_cross_f (f p : V3 ℝ) (frame : Tm ℝ) :
    (wrenchAt f p frame).data = ⟨V3.cross p f, f⟩ := rfl

/-- …and zero moment about its own point of application (frame translated to p, same orientation) -/
theorem zero_moment_at_application (f p : V3 ℝ) :
    ((adjoint (⟨M3.one, p⟩ : T4 ℝ)).T.mulVec (wrenchAt f p ident).data).a = ⟨0, 0, 0⟩ := by
  show (M3.one : M3 ℝ).T.mulVec (V3.cross p f) + (hat p * M3.one).T.mulVec f = _
  rw [M3.one_eq, T_one, one_mulVec, mul_one, hat_T, neg_mulVec, hat_mulVec, add_neg_cancel, V3.mk_zero]

/-! ### sums in mixed frames and the vector-space laws -/

/-- `change` leaves an operand that is already in the target frame alone, so the two branches of `+` are one: the right
    operand is re-expressed in the left operand's frame, which the result keeps -/
theorem addObj_eq (w : Bool) (a b : Scr ℝ) : addObj w a b = ⟨a.data + (change w b a.frame).data, a.frame⟩ := by
  unfold addObj
  split_ifs with h
  · rw [change_same_frame w b a.frame h]
  · rfl

theorem subObj_eq (w : Bool) (a b : Scr ℝ) : subObj w a b = ⟨a.data - (change w b a.frame).data, a.frame⟩ := by
  unfold subObj
  split_ifs with h
  · rw [change_same_frame w b a.frame h]
  · rfl

/-- sums / differences in different frames are taken after expressing the right operand in the left one's frame -/
theorem add_mixed_frames (w : Bool) (a b : Scr ℝ) (h : ¬ tmEq b.frame a.frame) :
    (addObj w a b).data = a.data + (change w b a.frame).data ∧ (addObj w a b).frame = a.frame ∧
    (subObj w a b).data = a.data - (change w b a.frame).data ∧ (subObj w a b).frame = a.frame := by
  rw [addObj_eq, subObj_eq]
  exact ⟨rfl, rfl, rfl, rfl⟩

/-- (a + b) − b = a in any pair of frames: the same vector is added and taken away — whatever `change` computes -/
theorem add_sub_cancel_mixed (w : Bool) (a b : Scr ℝ) :
    (subObj w (addObj w a b) b).data = a.data ∧ (subObj w (addObj w a b) b).frame = a.frame := by
  rw [addObj_eq, subObj_eq]
  exact ⟨add_sub_cancel_right _ _, rfl⟩

theorem add_sub_cancel (w : Bool) (a b : Scr ℝ) (h : tmEq b.frame a.frame) :
    (subObj w (addObj w a b) b).data = a.data :=
  (add_sub_cancel_mixed w a b).1

/-- …and (a − b) + b = a -/
theorem sub_add_cancel_mixed (w : Bool) (a b : Scr ℝ) :
    (addObj w (subObj w a b) b).data = a.data ∧ (addObj w (subObj w a b) b).frame = a.frame := by
  rw [subObj_eq, addObj_eq]
  exact ⟨sub_add_cancel _ _, rfl⟩

/-- array operands (6-array / 6×1 array): (a + v) − v = a -/
theorem arr_add_sub_cancel (a : Scr ℝ) (v : V6 ℝ) : subArr (addArr a v) v = a := by
  exact congrArg (Scr.mk · _) (add_sub_cancel_right _ _)

/-- … and v − a = −(a − v), frame kept -/
theorem arr_rsub_eq_neg_sub (a : Scr ℝ) (v : V6 ℝ) :
    (rsubArr a v).data = V6.smul (-1) (subArr a v).data ∧ (rsubArr a v).frame = a.frame := by
  refine ⟨?_, rfl⟩
  show v - a.data = (-1 : ℝ) • (a.data - v)
  rw [neg_one_smul, neg_sub]

/-- non-vacuity: two objects in frames that differ (translation by 1) take the mixed-frame branch -/
example : ¬ tmEq (ofTAA (⟨⟨1, 0, 0⟩, ⟨0, 0, 0⟩⟩ : V6 ℝ)) (ofTAA (⟨⟨0, 0, 0⟩, ⟨0, 0, 0⟩⟩ : V6 ℝ)) := by
  simp only [ofTAA]
  intro h
  have := h.1
  simp only [sabs_real', sci_real] at this
  norm_num at this

theorem sub_scalar_eq_add_neg (a : Scr ℝ) (s : ℝ) : subScalar a s = addScalar a (-s) :=
  sub_eq_add_neg _ _

theorem rsub_scalar_eq_neg_sub (a : Scr ℝ) (s : ℝ) : rsubScalar a s = V6.smul (-1) (subScalar a s) := by
  show v6const s - a.data = (-1 : ℝ) • (a.data - v6const s)
  rw [neg_one_smul, neg_sub]

theorem mul_div_cancel (a : Scr ℝ) (k : ℝ) (hk : k ≠ 0) : (divScalar (mulScalar a k) k).data = a.data := by
  show V6.sdiv (k • a.data) k = a.data
  rw [V6.sdiv_eq_smul, smul_smul, one_div_mul_cancel hk, one_smul]

end BR.C12
