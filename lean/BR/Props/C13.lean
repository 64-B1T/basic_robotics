/-
  C13 — loading a URDF preserves the kinematics the file describes.
  Theorems about BR/Model/Urdf.lean at ℝ.
-/
import BR.Lemmas.SE3
import BR.Model.Urdf

namespace BR.C13
open BR.MR BR.Rot BR.UrdfModel

/-- the screw the loader builds for a joint at accumulated pose Q with axis w is Ad(Q) applied to the
    pure rotation screw (w, 0) -/
theorem loader_screw (Q : T4 ℝ) (w : V3 ℝ) :
    (⟨Q.R.mulVec w, V3.cross Q.p (Q.R.mulVec w)⟩ : V6 ℝ) = (adjoint Q).mulVec ⟨w, ⟨0, 0, 0⟩⟩ := by
  rw [adjoint_mulVec, mulVec_mul, hat_mulVec, V3.mk_zero, mulVec_zero, add_zero]

theorem exp6_pure_rot (v : V3 ℝ) :
    matrixExp6 (hat6 ⟨v, ⟨0, 0, 0⟩⟩) = ⟨matrixExp3 (hat v), ⟨0, 0, 0⟩⟩ := by
  by_cases hz : nearZero (norm3 v)
  · rw [exp6_translating ⟨v, ⟨0, 0, 0⟩⟩ hz, exp3_small v hz]
  · rw [exp6_rotating ⟨v, ⟨0, 0, 0⟩⟩ hz]
    simp only [V3.mk_zero, mulVec_zero, V3.sdiv_eq_smul, smul_zero]

/-- met by every origin the loader composes (`origin_isRot`) -/
def DocOK (js : List (Joint ℝ)) : Prop := ∀ j ∈ js, IsRot j.origin.R

/-- no moving joint is turned by an angle strictly inside the (0, 1e-6) cut-off band -/
def AnglesOK : List (Joint ℝ) → List ℝ → Prop
  | [], _ => True
  | j :: rest, θs =>
    if j.moving then
      match θs with
      | θ :: θs' => (V3.smul θ j.axis = 0 ∨ (1e-6 : ℝ) ≤ norm3 (V3.smul θ j.axis)) ∧ AnglesOK rest θs'
      | [] => False
    else AnglesOK rest θs

theorem numDof_cons_moving {j : Joint ℝ} (h : j.moving = true) (rest : List (Joint ℝ)) :
    numDof (j :: rest) = numDof rest + 1 := by
  simp only [numDof, List.filter_cons, h, if_true, List.length_cons]

theorem numDof_cons_fixed {j : Joint ℝ} (h : j.moving = false) (rest : List (Joint ℝ)) :
    numDof (j :: rest) = numDof rest := by
  simp only [numDof, List.filter_cons, h, Bool.false_eq_true, if_false]

/-- the file's semantics are equivariant in the start pose -/
theorem chainFK_left (A P : T4 ℝ) (js : List (Joint ℝ)) (θs : List ℝ) :
    chainFK (A * P) js θs = A * chainFK P js θs := by
  induction js generalizing P θs with
  | nil => rfl
  | cons j rest ih =>
    simp only [chainFK]
    split_ifs
    · cases θs with
      | nil => simp only; rw [T4_mul_assoc, ih]
      | cons θ θs' => simp only; rw [T4_mul_assoc, T4_mul_assoc, ← T4_mul_assoc P, ih]
    · rw [T4_mul_assoc, ih]

/-- a revolute joint as the loader stores it: the exponential of the screw built at accumulated pose Q for axis w,
    turned by θ, is Q · Rot(w, θ) · Q⁻¹ -/
theorem exp6_loader_screw (Q : T4 ℝ) (hQ : IsRot Q.R) (w : V3 ℝ) (θ : ℝ)
    (hok : V3.smul θ w = 0 ∨ (1e-6 : ℝ) ≤ norm3 (V3.smul θ w)) :
    matrixExp6 (hat6 (V6.smul θ ⟨Q.R.mulVec w, V3.cross Q.p (Q.R.mulVec w)⟩)) =
      Q * ⟨matrixExp3 (hat (V3.smul θ w)), ⟨0, 0, 0⟩⟩ * transInv Q := by
  have hs : V6.smul θ (⟨w, ⟨0, 0, 0⟩⟩ : V6 ℝ) = ⟨V3.smul θ w, ⟨0, 0, 0⟩⟩ := by
    simp only [V6.smul, V3.smul, mul_zero]
  -- the screw is Ad(Q)(w, 0); scaling goes through Ad(Q); θ·(w, 0) = (θw, 0); then conjugation and the pure rotation
  rw [loader_screw, V6.smul_eq, ← M6.mulVec_smul, ← V6.smul_eq, hs, exp6_conj Q hQ _ hok, exp6_pure_rot]

/-- **the loaded arm's product-of-exponentials FK equals the file's own semantics**, for chains of any
    length with fixed joints before, between and after the moving ones.  The semantics are
    those of `chainFK`: every moving joint turns about its axis (URDF revolute / continuous); a prismatic joint is not
    told apart, by the loader or here. -/
theorem loader_FK_eq_urdfFK (P : T4 ℝ) (hP : IsRot P.R) (js : List (Joint ℝ)) (hjs : DocOK js) (θs : List ℝ)
    (hlen : θs.length = numDof js) (hang : AnglesOK js θs) :
    fkinSpace (homeOf P js) ((screwsOf P js).zip θs) = chainFK P js θs := by
  induction js generalizing P θs with
  | nil => simp [homeOf, screwsOf, chainFK, fkinSpace]
  | cons j rest ih =>
    have hQ : IsRot (P * j.origin).R := isRot_mul hP (hjs j (by simp))
    have hrest : DocOK rest := fun x hx => hjs x (by simp [hx])
    simp only [homeOf, screwsOf, chainFK]
    by_cases hm : j.moving = true
    · simp only [hm, if_true]
      cases θs with
      | nil =>
        rw [numDof_cons_moving hm] at hlen
        exact absurd hlen.symm (Nat.succ_ne_zero _)
      | cons θ θs' =>
        simp only [AnglesOK, hm] at hang
        rw [numDof_cons_moving hm] at hlen
        have hl' : θs'.length = numDof rest := Nat.add_right_cancel hlen
        simp only [List.zip_cons_cons, fkinSpace]
        -- Q · Rot · Q⁻¹ · chainFK Q … = chainFK (Q · Rot) …, since chainFK is equivariant in its start pose
        rw [ih (P * j.origin) hQ hrest θs' hl' hang.2, exp6_loader_screw _ hQ _ _ hang.1,
          T4_mul_assoc, ← chainFK_left, transInv_mul _ hQ.1, ← chainFK_left, T4_mul_one]
        -- `chainFK` writes the zero translation with the scalar class's 0, `exp6_pure_rot` with ℝ's
        simp only [ofNat_real_zero]
    · have hm' : j.moving = false := by simpa using hm
      simp only [hm', Bool.false_eq_true]
      rw [numDof_cons_fixed hm'] at hlen
      have ha' : AnglesOK rest θs := by simpa [AnglesOK, hm'] using hang
      exact ih (P * j.origin) hQ hrest θs hlen ha'

/-- number of degrees of freedom = number of moving joints = number of screws.  (The screws come in file order by the
    way `screwsOf` conses them; this statement speaks of their number only.) -/
theorem dof_and_order (P : T4 ℝ) (js : List (Joint ℝ)) : (screwsOf P js).length = numDof js := by
  induction js generalizing P with
  | nil => rfl
  | cons j rest ih =>
    simp only [screwsOf]
    split_ifs with h
    · rw [List.length_cons, ih, numDof_cons_moving h]
    · rw [ih, numDof_cons_fixed (by simpa using h)]

/-- the origin element is xyz translation with fixed-axis roll-pitch-yaw: `originOf` read with ℝ's numerals, rotation
    exp[ẑ·yaw]·exp[ŷ·pitch]·exp[x̂·roll] (that these three are the elementary matrices Rz, Ry, Rx is not stated) -/
theorem rpy_origin (xyz rpy : V3 ℝ) :
    (originOf xyz rpy).p = xyz ∧
    (originOf xyz rpy).R = matrixExp3 (hat ⟨0, 0, rpy.z⟩) * matrixExp3 (hat ⟨0, rpy.y, 0⟩) * matrixExp3 (hat ⟨rpy.x, 0, 0⟩) :=
  ⟨rfl, by simp only [originOf, ofNat_real_zero]⟩

theorem origin_isRot (xyz rpy : V3 ℝ) : IsRot (originOf xyz rpy).R :=
  isRot_mul (isRot_mul (exp3_isRot _) (exp3_isRot _)) (exp3_isRot _)

end BR.C13
