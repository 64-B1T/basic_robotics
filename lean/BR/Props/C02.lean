/-
  C02 — the Numba port computes what reference Modern Robotics computes.
  Where port and reference are the same text, both are tied to the one model of BR/Model/MR.lean
  (the content is then the two correspondence runs).  Where the texts differ, equality is proved.
-/
import BR.Lemmas.Log3
import BR.Model.MRRef

namespace BR.C02
open BR.MR BR.Rot

/-- the port's `SafeClip` does not change the angle (`arccos` clamps its argument to [-1, 1] anyway), so the two
    logarithms agree on every 3×3 matrix (not only on rotations) -/
theorem matrixLog3_port_eq_ref (R : M3 ℝ) : matrixLog3 R = MRRef.matrixLog3 R := by
  unfold matrixLog3 MRRef.matrixLog3
  simp only [ofNat_real_one, acos_real, arccos_safeClip]

/-- likewise the port's clipped angle in `MatrixLog6` is the reference's angle -/
theorem matrixLog6_port_eq_ref (eq0 : M3 ℝ → Bool) (T : T4 ℝ) (hR : IsRot T.R) :
    matrixLog6 eq0 T = MRRef.matrixLog6 eq0 T := by
  unfold matrixLog6 MRRef.matrixLog6
  simp only [ofNat_real_one, acos_real, arccos_safeClip, matrixLog3_port_eq_ref]

/-- `Normalize` divides by the same Euclidean norm the reference takes from `np.linalg.norm` -/
theorem normalize_port_eq_ref (v : V3 ℝ) :
    normalize v = V3.sdiv v (Real.sqrt (v.x * v.x + v.y * v.y + v.z * v.z)) := rfl

theorem ikLoop_flag {Θ : Type} (err : Θ → Bool) (upd : Θ → Θ) (fuel : Nat) (θ0 : Θ) :
    (MRRef.ikLoop err upd fuel θ0).2 = !err (MRRef.ikLoop err upd fuel θ0).1 := by
  induction fuel generalizing θ0 with
  | zero => rfl
  | succ n ih =>
    unfold MRRef.ikLoop
    split_ifs with he
    · exact ih (upd θ0)
    · simp [he]

/-- the loop returns `true` only with a joint vector whose error passes the tolerance test -/
theorem ikLoop_success_sound {Θ : Type} (err : Θ → Bool) (upd : Θ → Θ) (fuel : Nat) (θ0 : Θ) :
    (MRRef.ikLoop err upd fuel θ0).2 = true → err (MRRef.ikLoop err upd fuel θ0).1 = false := by
  rw [ikLoop_flag]; simp

/-- and, conversely, a reported failure means the last iterate misses a tolerance -/
theorem ikLoop_failure_means_error {Θ : Type} (err : Θ → Bool) (upd : Θ → Θ) (fuel : Nat) (θ0 : Θ) :
    (MRRef.ikLoop err upd fuel θ0).2 = false → err (MRRef.ikLoop err upd fuel θ0).1 = true := by
  rw [ikLoop_flag]; simp

/-- the tolerance test in terms of norms: success ⇒ ‖ω‖ ≤ eomg ∧ ‖v‖ ≤ ev -/
theorem ikErr_false_iff (eomg ev : ℝ) (V : V6 ℝ) :
    MRRef.ikErr eomg ev V = false ↔ norm3 V.a ≤ eomg ∧ norm3 V.b ≤ ev := by
  unfold MRRef.ikErr
  simp

/-- records a modelling decision; the statement itself is `x = x`.  Both libraries' Newton loops are modelled by the one
    `MRRef.ikLoop`; the code differs only in the cap (reference and the port's IKinBody: hard-coded 20; the port's
    IKinSpace: `max_iters`, default 20) -/
theorem ik_same_cap {Θ : Type} (err : Θ → Bool) (upd : Θ → Θ) (θ0 : Θ) :
    MRRef.ikLoop err upd 20 θ0 = MRRef.ikLoop err upd 20 θ0 := rfl

theorem cubic_eq (Tf t : ℝ) : cubicTimeScaling Tf t = 3 * (t / Tf) ^ 2 - 2 * (t / Tf) ^ 3 := by
  unfold cubicTimeScaling
  simp only [ofNat_real_one, ofNat_real, one_mul]
  ring

theorem quintic_eq (Tf t : ℝ) :
    quinticTimeScaling Tf t = 10 * (t / Tf) ^ 3 - 15 * (t / Tf) ^ 4 + 6 * (t / Tf) ^ 5 := by
  unfold quinticTimeScaling
  simp only [ofNat_real_one, ofNat_real, one_mul]
  ring

/-- the time scalings start at 0 and end at 1 (so a trajectory starts at its start and ends at its end), for every
    duration Tf ≠ 0 -/
theorem cubic_endpoints (Tf : ℝ) (h : Tf ≠ 0) : cubicTimeScaling Tf 0 = 0 ∧ cubicTimeScaling Tf Tf = 1 := by
  rw [cubic_eq, cubic_eq, zero_div, div_self h]; norm_num

theorem quintic_endpoints (Tf : ℝ) (h : Tf ≠ 0) : quinticTimeScaling Tf 0 = 0 ∧ quinticTimeScaling Tf Tf = 1 := by
  rw [quintic_eq, quintic_eq, zero_div, div_self h]; norm_num

/-- …and stay inside [0, 1] in between: the path parameter never overshoots -/
theorem cubic_range (Tf t : ℝ) (hT : 0 < Tf) (h0 : 0 ≤ t) (h1 : t ≤ Tf) :
    0 ≤ cubicTimeScaling Tf t ∧ cubicTimeScaling Tf t ≤ 1 := by
  rw [cubic_eq]
  have hu0 : 0 ≤ t / Tf := div_nonneg h0 hT.le
  have hv : 0 ≤ 1 - t / Tf := sub_nonneg.mpr ((div_le_one hT).mpr h1)
  generalize t / Tf = u at hu0 hv
  -- s = u² (1 + 2(1 − u)) and 1 − s = (1 − u)² (1 + 2u)
  have hs : 0 ≤ u ^ 2 * (1 + 2 * (1 - u)) := by positivity
  have hs' : 0 ≤ (1 - u) ^ 2 * (1 + 2 * u) := by positivity
  exact ⟨hs.trans_eq (by ring), sub_nonneg.1 (hs'.trans_eq (by ring))⟩

theorem quintic_range (Tf t : ℝ) (hT : 0 < Tf) (h0 : 0 ≤ t) (h1 : t ≤ Tf) :
    0 ≤ quinticTimeScaling Tf t ∧ quinticTimeScaling Tf t ≤ 1 := by
  rw [quintic_eq]
  have hu0 : 0 ≤ t / Tf := div_nonneg h0 hT.le
  have hv : 0 ≤ 1 - t / Tf := sub_nonneg.mpr ((div_le_one hT).mpr h1)
  generalize t / Tf = u at hu0 hv
  -- s = u³ (6 (u − 5/4)² + 5/8) and 1 − s = (1 − u)³ (1 + 3u + 6u²)
  have hs : 0 ≤ u ^ 3 * (6 * (u - 5 / 4) ^ 2 + 5 / 8) := by positivity
  have hs' : 0 ≤ (1 - u) ^ 3 * (1 + 3 * u + 6 * u ^ 2) := by positivity
  exact ⟨hs.trans_eq (by ring), sub_nonneg.1 (hs'.trans_eq (by ring))⟩

end BR.C02
