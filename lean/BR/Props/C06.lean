/-
  C06 — arm Jacobians and statics: the algebraic clauses.  Column i of the space Jacobian is
  Ad(e^{[S_0]θ_0} ⋯ e^{[S_{i-1}]θ_{i-1}}) S_i, and statics is the transpose map.
  The link-mass statics follow below (`BR.C06L`); the derivative clause (d/dθ_i FK = [J_s e_i] · FK) is proved in
  C06Deriv and the body/space relation in C06Body, each under the hypotheses stated there; inside the exponential's 1e-6 cut-off band the
  derivative and body/space clauses are decided on the implementation by Richardson differences (harness/c06.py).
-/
import BR.Lemmas.SE3
import BR.Model.ArmStatics

namespace BR.C06
open BR.MR BR.Rot

noncomputable def prefixProd (T : T4 ℝ) : List (V6 ℝ × ℝ) → Nat → T4 ℝ
  | _, 0 => T
  | [], _ + 1 => T
  | (S, θ) :: rest, i + 1 => prefixProd (T * matrixExp6 (hat6 (V6.smul θ S))) rest i

theorem jacobianSpaceAux_col (T : T4 ℝ) (joints : List (V6 ℝ × ℝ)) (i : Nat) (hi : i < joints.length) :
    (jacobianSpaceAux T joints)[i]? = some ((adjoint (prefixProd T joints i)).mulVec (joints[i]'hi).1) := by
  -- the recursion, `prefixProd` and the two list accesses step down the chain together, by definition
  induction joints generalizing T i with
  | nil => exact absurd hi (Nat.not_lt_zero _)
  | cons j js ih =>
    obtain ⟨S, θ⟩ := j
    cases i with
    | zero => rfl
    | succ k => exact ih _ k (Nat.lt_of_succ_lt_succ hi)

/-- `JacobianSpace` is the recursion started at the identity (the code copies the first column instead of applying Ad(I)) -/
theorem jacobianSpace_eq_aux (joints : List (V6 ℝ × ℝ)) : jacobianSpace joints = jacobianSpaceAux T4.one joints := by
  cases joints with
  | nil => rfl
  | cons j js =>
    show j.1 :: _ = (adjoint T4.one).mulVec j.1 :: _
    rw [adjoint_one_mulVec]

/-- **column i of the space Jacobian is Ad(e^{[S_0]θ_0} ⋯ e^{[S_{i-1}]θ_{i-1}}) S_i** — the spatial
    velocity of everything distal to joint i per unit rate of joint i, for chains of any length -/
theorem jacobianSpace_col (joints : List (V6 ℝ × ℝ)) (i : Nat) (hi : i < joints.length) :
    (jacobianSpace joints)[i]? = some ((adjoint (prefixProd T4.one joints i)).mulVec (joints[i]'hi).1) := by
  rw [jacobianSpace_eq_aux]
  exact jacobianSpaceAux_col T4.one joints i hi

/-- J q̇ for a Jacobian given by its columns -/
noncomputable def applyJ : List (V6 ℝ) → List ℝ → V6 ℝ
  | c :: cs, q :: qs => V6.smul q c + applyJ cs qs
  | _, _ => ⟨⟨0, 0, 0⟩, ⟨0, 0, 0⟩⟩

/-- Jᵀ F: one torque per column -/
noncomputable def applyJT (cols : List (V6 ℝ)) (F : V6 ℝ) : List ℝ := cols.map fun c => V6.dot c F

noncomputable def dotList : List ℝ → List ℝ → ℝ
  | a :: as, b :: bs => a * b + dotList as bs
  | _, _ => 0

/-- **torque · rate = wrench · twist** for every Jacobian, rate vector and wrench -/
theorem statics_power (cols : List (V6 ℝ)) (F : V6 ℝ) (qd : List ℝ) :
    dotList (applyJT cols F) qd = V6.dot F (applyJ cols qd) := by
  induction cols generalizing qd with
  | nil => simp only [applyJT, List.map_nil, dotList, applyJ, V6.mk_zero, V6.dot_zero_right]
  | cons c cs ih =>
    cases qd with
    | nil => simp only [applyJT, List.map_cons, dotList, applyJ, V6.mk_zero, V6.dot_zero_right]
    | cons q qs =>
      simp only [applyJT, List.map_cons, dotList, applyJ] at ih ⊢
      rw [ih qs, V6.dot_add_right, V6.smul_eq, V6.dot_smul_right, V6.dot_comm c F, mul_comm]

/-- the link-mass variant adds, to joint i, the pairing of its Jacobian column with the weight wrench
    of every distal link: linearity of the transpose map in the wrench -/
theorem statics_linear (cols : List (V6 ℝ)) (F W : V6 ℝ) :
    applyJT cols (F + W) = (applyJT cols F).zipWith (· + ·) (applyJT cols W) := by
  induction cols with
  | nil => rfl
  | cons c cs ih =>
    simp only [applyJT, List.map_cons, List.zipWith_cons_cons] at ih ⊢
    rw [ih, V6.dot_add_right]

end BR.C06

/-
  C06 — "the link-mass variant adds exactly the moment of each link's weight about each joint axis".

  Arm.staticForcesWithLinkMasses walks from the last joint to the first, adding the weight wrench of link i to a carried wrench and
  taking the torque of each joint as (its column of the Jacobian) · (carried wrench).  Model: `linkMassTorques`.  Theorems: for chains of any
  length the i-th torque is  Jᵢ·W + Σ_{k ≥ i} Jᵢ·w_k  (tool wrench plus the weights of the links distal to the joint, nothing else), and for
  a revolute screw column Jᵢ = (ω, q × ω) and a weight f acting at p,  Jᵢ·(p × f, f) = ω · ((p − q) × f)  — the moment of the weight
  about the joint axis.
-/
namespace BR.C06L
open BR.ArmStatics

noncomputable def sumW : List (V6 ℝ) → V6 ℝ
  | [] => ⟨⟨0, 0, 0⟩, ⟨0, 0, 0⟩⟩
  | w :: ws => w + sumW ws

theorem carry_eq (W : V6 ℝ) (Js ws : List (V6 ℝ)) (h : Js.length = ws.length) :
    (linkMassAux W Js ws).2 = W + sumW ws := by
  induction Js generalizing ws with
  | nil =>
    cases ws with
    | nil => simp only [linkMassAux, sumW, V6.mk_zero, add_zero]
    | cons w ws => cases h
  | cons J Js ih =>
    cases ws with
    | nil => cases h
    | cons w ws =>
      show (linkMassAux W Js ws).2 + w = W + (w + sumW ws)
      rw [ih ws (Nat.succ.inj h), add_assoc, add_comm (sumW ws) w]

/-- **torque of joint i = Jᵢ · (tool wrench + weights of the links distal to joint i)**, for chains of any length -/
theorem linkMassTorques_get (W : V6 ℝ) (Js ws : List (V6 ℝ)) (h : Js.length = ws.length) (i : Nat) (hi : i < Js.length) :
    (linkMassTorques W Js ws)[i]? = some (V6.dot Js[i] (W + sumW (ws.drop i))) := by
  unfold linkMassTorques
  induction Js generalizing ws i with
  | nil => exact absurd hi (Nat.not_lt_zero _)
  | cons J Js ih =>
    cases ws with
    | nil => cases h
    | cons w ws =>
      cases i with
      | zero =>
        show some (V6.dot J (linkMassAux W (J :: Js) (w :: ws)).2) = _
        rw [carry_eq W (J :: Js) (w :: ws) h]
        rfl
      -- `linkMassAux`, `[·]?`, `[·]` and `drop` step down the two lists together, by definition
      | succ j => exact ih ws (Nat.succ.inj h) j (Nat.lt_of_succ_lt_succ hi)

/-- … hence it is the plain statics torque Jᵢ·W plus, for each distal link, Jᵢ·(weight wrench) and nothing else -/
theorem linkMassTorques_split (W : V6 ℝ) (Js ws : List (V6 ℝ)) (h : Js.length = ws.length) (i : Nat) (hi : i < Js.length) :
    (linkMassTorques W Js ws)[i]? = some (V6.dot Js[i] W + V6.dot Js[i] (sumW (ws.drop i))) := by
  rw [linkMassTorques_get W Js ws h i hi, V6.dot_add_right]

/-- **Jᵢ · (weight wrench) is the moment of the weight about the joint axis**: for a revolute screw column (ω, q × ω) (axis ω
    through the point q) and a force f applied at p,  (ω, q × ω) · (p × f, f) = ω · ((p − q) × f) -/
theorem column_dot_weight (ω q p f : V3 ℝ) :
    V6.dot (⟨ω, V3.cross q ω⟩ : V6 ℝ) ⟨V3.cross p f, f⟩ = V3.dot ω (V3.cross (p - q) f) := by
  obtain ⟨w1, w2, w3⟩ := ω; obtain ⟨q1, q2, q3⟩ := q; obtain ⟨p1, p2, p3⟩ := p; obtain ⟨f1, f2, f3⟩ := f
  m3simp; ring

/-- a weight acting on the joint axis itself loads that joint with nothing -/
theorem column_dot_weight_on_axis (ω q f : V3 ℝ) (t : ℝ) :
    V6.dot (⟨ω, V3.cross q ω⟩ : V6 ℝ) ⟨V3.cross (q + V3.smul t ω) f, f⟩ = 0 := by
  rw [column_dot_weight]
  obtain ⟨w1, w2, w3⟩ := ω; obtain ⟨q1, q2, q3⟩ := q; obtain ⟨f1, f2, f3⟩ := f
  m3simp; ring

/-- the length hypothesis of `linkMassTorques_get` on a two-joint instance -/
example : ([⟨⟨0, 0, 1⟩, ⟨0, 0, 0⟩⟩, ⟨⟨0, 1, 0⟩, ⟨0, 0, 1⟩⟩] : List (V6 ℝ)).length =
    ([⟨⟨0, 0, 0⟩, ⟨0, 0, -1⟩⟩, ⟨⟨0, 0, 0⟩, ⟨0, 0, -2⟩⟩] : List (V6 ℝ)).length := rfl

end BR.C06L
