/-
  C16 — RRT* builds a collision-free, cost-consistent tree and returns a path in it.
  Property theorems about BR/Model/RRT.lean with real costs (`N = Node ℝ`), for every oracle trace.
-/
import BR.Real
import BR.Model.RRT

namespace BR.C16
open BR.RRT

abbrev N := Node ℝ

structure Chosen (tree : List N) (start : Nat × ℝ × ℝ) (cs : List (Cand ℝ)) (best : Nat × ℝ × ℝ) : Prop where
  le_start : best.2.1 ≤ start.2.1
  le_free : ∀ c ∈ cs, c.collides = false → best.2.1 ≤ c.dist + costOf tree c.id
  attained : best = start ∨ ∃ c ∈ cs, c.collides = false ∧ best = (c.id, c.dist + costOf tree c.id, c.dist)

theorem choose_fold (tree : List N) (start : Nat × ℝ × ℝ) (cs : List (Cand ℝ)) :
    Chosen tree start cs (cs.foldl (choose tree) start) := by
  -- `foldl` consumes from the left and `Chosen` speaks of the candidates seen so far: peel the last one
  induction cs using List.reverseRecOn with
  | nil => exact ⟨le_refl _, (by intro c hc; cases hc), Or.inl rfl⟩
  | append_singleton cs c ih =>
    rw [List.foldl_append, List.foldl_cons, List.foldl_nil]
    generalize cs.foldl (choose tree) start = best at ih ⊢
    unfold choose
    split_ifs with h
    · obtain ⟨hlt, hfree⟩ := h
      refine ⟨?_, ?_, Or.inr ⟨c, by simp, hfree, rfl⟩⟩
      · exact le_trans hlt.le ih.le_start
      · intro c' hc' hf'
        rcases List.mem_append.mp hc' with h1 | h1
        · exact le_trans hlt.le (ih.le_free c' h1 hf')
        · rw [List.mem_singleton.mp h1]
    · refine ⟨ih.le_start, ?_, ?_⟩
      · intro c' hc' hf'
        rcases List.mem_append.mp hc' with h1 | h1
        · exact ih.le_free c' h1 hf'
        · rw [List.mem_singleton.mp h1] at hf' ⊢
          by_contra hcon
          exact h ⟨not_le.mp hcon, hf'⟩
      · rcases ih.attained with h1 | ⟨c', hc', hf', he⟩
        · exact Or.inl h1
        · exact Or.inr ⟨c', List.mem_append_left _ hc', hf', he⟩

/-- the oracle refers only to nodes already in the tree -/
def WFIter (tree : List N) (it : Iter ℝ) : Prop :=
  it.nearest < tree.length ∧ ∀ c ∈ it.cands, c.id < tree.length

noncomputable def newNode (tree : List N) (it : Iter ℝ) : N :=
  let best := it.cands.foldl (choose tree) (it.nearest, it.dist0 + costOf tree it.nearest, it.dist0)
  { parent := some best.1, cost := best.2.1, edge := best.2.2 }

theorem insert_eq (tree : List N) (it : Iter ℝ) : insert tree it = tree ++ [newNode tree it] := rfl

theorem newNode_cases (tree : List N) (it : Iter ℝ) :
    ∃ p d, newNode tree it = ⟨some p, d + costOf tree p, d⟩ ∧
      ((p = it.nearest ∧ d = it.dist0) ∨ ∃ c ∈ it.cands, c.collides = false ∧ p = c.id ∧ d = c.dist) := by
  unfold newNode
  rcases (choose_fold tree (it.nearest, it.dist0 + costOf tree it.nearest, it.dist0) it.cands).attained
    with h | ⟨c, hc, hf, h⟩ <;> rw [h]
  · exact ⟨_, _, rfl, Or.inl ⟨rfl, rfl⟩⟩
  · exact ⟨_, _, rfl, Or.inr ⟨c, hc, hf, rfl, rfl⟩⟩

/-- **insertion-time clause**: the new node is attached to the cheapest candidate among the first
    nearest node and the collision-free neighbours examined; its cost is that candidate's cost plus
    the distance to it; and the link is collision-free whenever the sample was accepted. -/
theorem insert_attaches_cheapest_free (tree : List N) (it : Iter ℝ) (dmin dmax : ℝ)
    (hacc : ¬ rejected dmin dmax it) :
    let n := newNode tree it
    (n.cost ≤ it.dist0 + costOf tree it.nearest) ∧
    (∀ c ∈ it.cands, c.collides = false → n.cost ≤ c.dist + costOf tree c.id) ∧
    ((n.parent = some it.nearest ∧ n.edge = it.dist0 ∧ it.coll0 = false) ∨
      ∃ c ∈ it.cands, c.collides = false ∧ n.parent = some c.id ∧ n.edge = c.dist) ∧
    (∃ p, n.parent = some p ∧ n.cost = n.edge + costOf tree p) ∧
    (dmin ≤ it.dist0 ∧ it.dist0 ≤ dmax) := by
  intro n
  have hch := choose_fold tree (it.nearest, it.dist0 + costOf tree it.nearest, it.dist0) it.cands
  rw [rejected, not_or, not_or, not_lt, not_lt, Bool.not_eq_true] at hacc
  obtain ⟨p, d, hn, hpd⟩ := newNode_cases tree it
  refine ⟨hch.le_start, hch.le_free, ?_, ?_, hacc.2.1, hacc.1⟩ <;> rw [show n = _ from hn]
  · rcases hpd with ⟨rfl, rfl⟩ | ⟨c, hc, hf, rfl, rfl⟩
    · exact Or.inl ⟨rfl, rfl, hacc.2.2⟩
    · exact Or.inr ⟨c, hc, hf, rfl, rfl⟩
  · exact ⟨p, rfl, rfl⟩

/-- every oracle answer of the trace refers to nodes present at that time -/
def WFTrace : List N → List (Iter ℝ) → Prop
  | _, [] => True
  | tree, it :: its => WFIter tree it ∧ WFTrace (insert tree it) its

/-- structural invariant: node 0 is the root, every other node's parent was inserted earlier,
    and its stored cost is its parent's cost plus the recorded distance to the parent -/
def TreeInv (tree : List N) : Prop :=
  (∃ r, tree[0]? = some r ∧ r.parent = none) ∧
  ∀ i n, tree[i]? = some n → 0 < i →
    ∃ p, n.parent = some p ∧ p < i ∧ n.cost = n.edge + costOf tree p

theorem costOf_eq {tree : List N} {i : Nat} {n : N} (hn : tree[i]? = some n) : costOf tree i = n.cost := by
  unfold costOf; rw [hn]; rfl

theorem costOf_append {tree : List N} {x : N} {p : Nat} (hp : p < tree.length) :
    costOf (tree ++ [x]) p = costOf tree p := by
  unfold costOf
  rw [List.getElem?_append_left hp]

theorem treeInv_root : TreeInv ([root] : List N) := by
  refine ⟨⟨root, rfl, rfl⟩, ?_⟩
  intro i n h hi
  cases i with
  | zero => exact absurd hi (lt_irrefl 0)
  | succ k => simp at h

/-- The invariant survives an insertion whatever the sample was: it does not speak of collisions. -/
theorem TreeInv.insert {tree : List N} {it : Iter ℝ} (h : TreeInv tree) (hwf : WFIter tree it) :
    TreeInv (RRT.insert tree it) := by
  obtain ⟨⟨r, hr0, hrp⟩, hall⟩ := h
  have hlen : 0 < tree.length := (List.getElem?_eq_some_iff.mp hr0).1
  rw [insert_eq]
  refine ⟨⟨r, by rwa [List.getElem?_append_left hlen], hrp⟩, fun i n hi hpos => ?_⟩
  rcases Nat.lt_or_ge i tree.length with hlt | hge
  · rw [List.getElem?_append_left hlt] at hi
    obtain ⟨p, hp, hpi, hc⟩ := hall i n hi hpos
    exact ⟨p, hp, hpi, by rw [costOf_append (hpi.trans hlt)]; exact hc⟩
  · have hle := (List.getElem?_eq_some_iff.mp hi).1
    rw [List.length_append, List.length_singleton] at hle
    obtain rfl : i = tree.length := Nat.le_antisymm (Nat.le_of_lt_succ hle) hge
    rw [List.getElem?_concat_length] at hi
    cases hi
    obtain ⟨p, d, hn, hpd⟩ := newNode_cases tree it
    have hp : p < tree.length := by
      rcases hpd with ⟨rfl, -⟩ | ⟨c, hc, -, rfl, -⟩
      exacts [hwf.1, hwf.2 c hc]
    rw [hn]
    exact ⟨p, rfl, hp, by rw [costOf_append hp]⟩

theorem treeInv_insert (tree : List N) (it : Iter ℝ) (dmin dmax : ℝ) (h : TreeInv tree) (hwf : WFIter tree it)
    (hacc : ¬ rejected dmin dmax it) : TreeInv (insert tree it) :=
  h.insert hwf

theorem foldl_insert_eq (tree : List N) (its : List (Iter ℝ)) :
    ∃ t, its.foldl RRT.insert tree = tree ++ t ∧ t.length = its.length := by
  induction its generalizing tree with
  | nil => exact ⟨[], (List.append_nil _).symm, rfl⟩
  | cons it its ih =>
    obtain ⟨t, ht, hl⟩ := ih (insert tree it)
    exact ⟨newNode tree it :: t, by rw [List.foldl_cons, ht, insert_eq, List.append_assoc]; rfl,
      congrArg Nat.succ hl⟩

theorem TreeInv.foldl_insert {tree : List N} {its : List (Iter ℝ)} (h : TreeInv tree) (hwf : WFTrace tree its) :
    TreeInv (its.foldl RRT.insert tree) := by
  induction its generalizing tree with
  | nil => exact h
  | cons it its ih => exact ih (h.insert hwf.1) hwf.2

theorem treeInv_generate {its : List (Iter ℝ)} (hwf : WFTrace [root] its) : TreeInv (generate its) :=
  treeInv_root.foldl_insert hwf

/-- **the generated tree**: rooted at node 0, every other node's parent is an earlier node (so
    parent links are acyclic and lead to the root), stored cost = parent's cost + distance to the
    parent, and the tree holds exactly one node per iteration plus the root — for every trace of
    generator / distance / collision / nearest-neighbour answers. -/
theorem tree_rooted_acyclic_cost_consistent (its : List (Iter ℝ)) (dmin dmax : ℝ)
    (hwf : WFTrace [root] its) (hacc : ∀ it ∈ its, ¬ rejected dmin dmax it) :
    TreeInv (generate its) ∧ (generate its).length = its.length + 1 :=
  ⟨treeInv_generate hwf, by
    obtain ⟨t, ht, hl⟩ := foldl_insert_eq [root] its
    rw [generate, ht, List.length_append, hl]
    exact Nat.add_comm _ _⟩

theorem pathTo_ne_nil (tree : List N) (fuel i : Nat) : pathTo tree fuel i ≠ [] := by
  cases fuel with
  | zero => simp [pathTo]
  | succ fuel =>
    unfold pathTo
    split <;> simp

/-- fuel `i` is enough because parents are earlier nodes -/
theorem pathTo_induction {tree : List N} (h : TreeInv tree) {P : Nat → List Nat → Prop} (root : P 0 [0])
    (step : ∀ i n p l, tree[i]? = some n → n.parent = some p → n.cost = n.edge + costOf tree p →
      l ≠ [] → P p l → P i (l ++ [i]))
    (fuel i : Nat) (hi : i < tree.length) (hf : i ≤ fuel) : P i (pathTo tree fuel i) := by
  induction fuel generalizing i with
  | zero =>
    obtain rfl : i = 0 := by omega
    exact root
  | succ fuel ih =>
    unfold pathTo
    rcases Nat.eq_zero_or_pos i with rfl | h0
    · obtain ⟨⟨r, hr0, hrp⟩, _⟩ := h
      rw [hr0, Option.bind_some, hrp]
      exact root
    · have hn := List.getElem?_eq_getElem hi
      obtain ⟨p, hp, hpi, hcost⟩ := h.2 i _ hn h0
      rw [hn, Option.bind_some, hp]
      exact step i _ p _ hn hp hcost (pathTo_ne_nil tree fuel p) (ih p (hpi.trans hi) (by omega))

theorem pathTo_shape (tree : List N) (h : TreeInv tree) (fuel i : Nat) (hi : i < tree.length) (hf : i ≤ fuel) :
    (pathTo tree fuel i).head? = some 0 ∧ (pathTo tree fuel i).getLast? = some i ∧
    List.IsChain (fun a b => ((tree[b]?).bind Node.parent) = some a) (pathTo tree fuel i) := by
  refine pathTo_induction h (P := fun i l => l.head? = some 0 ∧ l.getLast? = some i ∧
    List.IsChain (fun a b => ((tree[b]?).bind Node.parent) = some a) l)
    ⟨rfl, rfl, List.isChain_singleton _⟩ ?_ fuel i hi hf
  rintro i n p l hn hp - hne ⟨hh, hl, hc⟩
  refine ⟨(List.head?_append_of_ne_nil _ hne).trans hh, List.getLast?_concat,
    hc.append (List.isChain_singleton _) fun a ha b hb => ?_⟩
  rw [hl] at ha
  cases ha; cases hb
  rw [hn]; exact hp

/-- **the returned path** (ids of the stored poses, then the goal is appended by the code):
    starts at the root, follows parent links in order, ends at the node asked for (the code asks for the one nearest
    the goal) -/
theorem path_shape (its : List (Iter ℝ)) (dmin dmax : ℝ) (hwf : WFTrace [root] its)
    (hacc : ∀ it ∈ its, ¬ rejected dmin dmax it) (i : Nat) (hi : i < (generate its).length) :
    (pathTo (generate its) (generate its).length i).head? = some 0 ∧
    (pathTo (generate its) (generate its).length i).getLast? = some i ∧
    List.IsChain (fun a b => (((generate its)[b]?).bind Node.parent) = some a)
      (pathTo (generate its) (generate its).length i) :=
  pathTo_shape _ (treeInv_generate hwf) _ i hi hi.le

noncomputable def edgeOf (tree : List N) (j : Nat) : ℝ := ((tree[j]?).map Node.edge).getD 0

theorem edgeOf_eq {tree : List N} {i : Nat} {n : N} (hn : tree[i]? = some n) : edgeOf tree i = n.edge := by
  unfold edgeOf; rw [hn]; rfl

/-- **path cost**: in any tree satisfying the invariant, the cost stored on node i is the root's cost plus the sum of the
    link distances along the parent walk from i (the walk the path extraction performs) — so costs compared by the
    choose-parent step are path lengths, for every tree size and walk length -/
theorem pathTo_cost (tree : List N) (h : TreeInv tree) (fuel i : Nat) (hi : i < tree.length) (hf : i ≤ fuel) :
    costOf tree i = costOf tree 0 + (((pathTo tree fuel i).tail).map (edgeOf tree)).sum := by
  refine pathTo_induction h (P := fun i l => costOf tree i = costOf tree 0 + ((l.tail).map (edgeOf tree)).sum)
    (by simp) ?_ fuel i hi hf
  intro i n p l hn _ hcost hne ih
  rw [List.tail_append_of_ne_nil hne, List.map_append, List.sum_append, costOf_eq hn, hcost, ih,
    List.map_singleton, List.sum_singleton, edgeOf_eq hn]
  ring

/-- …for the generated tree, whose root has cost 0: stored cost = sum of the link distances to the root -/
theorem generated_cost_is_path_length (its : List (Iter ℝ)) (dmin dmax : ℝ) (hwf : WFTrace [root] its)
    (hacc : ∀ it ∈ its, ¬ rejected dmin dmax it) (i : Nat) (hi : i < (generate its).length) :
    costOf (generate its) i =
      (((pathTo (generate its) (generate its).length i).tail).map (edgeOf (generate its))).sum := by
  obtain ⟨t, ht, -⟩ := foldl_insert_eq [root] its
  have h0 : costOf (generate its) 0 = 0 := by rw [generate, ht]; simp [costOf, root]
  rw [pathTo_cost _ (treeInv_generate hwf) _ i hi hi.le, h0, zero_add]

/-! non-vacuity: a one-iteration trace satisfying the hypotheses -/
noncomputable def demoIt : Iter ℝ := { nearest := 0, dist0 := 1, coll0 := false, cands := [⟨0, 1, false⟩] }
example : WFTrace [root] [demoIt] := by
  refine ⟨⟨Nat.zero_lt_one, ?_⟩, trivial⟩
  intro c hc
  rw [show demoIt.cands = [⟨0, 1, false⟩] from rfl, List.mem_singleton] at hc
  rw [hc]; exact Nat.zero_lt_one
example : ∀ it ∈ [demoIt], ¬ rejected (1 / 10 : ℝ) 100 it := by
  intro it hit
  rw [List.mem_singleton] at hit
  subst hit
  unfold rejected
  rw [show demoIt.dist0 = (1 : ℝ) from rfl, show demoIt.coll0 = false from rfl]
  norm_num

/-- with non-negative link distances (any metric-like distance callback) a node never costs less than its parent … -/
theorem cost_ge_parent (tree : List N) (h : TreeInv tree) (i : Nat) (n : N) (hn : tree[i]? = some n) (hi : 0 < i)
    (he : 0 ≤ n.edge) : ∃ p, n.parent = some p ∧ costOf tree p ≤ costOf tree i := by
  obtain ⟨p, hp, _, hc⟩ := h.2 i n hn hi
  exact ⟨p, hp, by rw [costOf_eq hn, hc]; exact le_add_of_nonneg_left he⟩

/-- … and every stored cost of the generated tree is non-negative (it is a sum of link distances) -/
theorem generated_cost_nonneg (its : List (Iter ℝ)) (dmin dmax : ℝ) (hwf : WFTrace [root] its)
    (hacc : ∀ it ∈ its, ¬ rejected dmin dmax it) (he : ∀ j, 0 ≤ edgeOf (generate its) j)
    (i : Nat) (hi : i < (generate its).length) : 0 ≤ costOf (generate its) i := by
  rw [generated_cost_is_path_length its dmin dmax hwf hacc i hi]
  apply List.sum_nonneg
  intro x hx
  rw [List.mem_map] at hx
  obtain ⟨j, _, rfl⟩ := hx
  exact he j

end BR.C16
