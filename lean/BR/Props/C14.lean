/-
  C14 — value semantics: operators and queries neither mutate nor alias their operands.
  Soundness of the syntactic analysis of BR/Model/Heap.lean for *every* heap, every placement
  (and aliasing) of the operand buffers, and every computed content.
-/
import BR.Model.HeapOps
import Mathlib.Tactic.Linarith

namespace BR.C14
open BR.Heap

/-- invariant linking the concrete state to the syntactic flags: the first `n0` buffers (everything
    that existed before the operation) are untouched, and fresh-flagged locals point past them -/
structure Inv (n0 : Nat) (h0 : List Buf) (flags : List Bool) (s : St) : Prop where
  len : n0 ≤ s.heap.length
  old : ∀ i, i < n0 → s.heap.getD i [] = h0.getD i []
  loc_len : s.locals.length = flags.length
  fresh : ∀ k, flags.getD k false = true → n0 ≤ s.locals.getD k 0 ∧ s.locals.getD k 0 < s.heap.length

theorem refFresh_ge {n0 h0 flags s} (hI : Inv n0 h0 flags s) (args : Nat → Nat) (r : Ref)
    (h : refFresh flags r = true) : n0 ≤ resolve args s r ∧ resolve args s r < s.heap.length := by
  cases r with
  | arg i => simp [refFresh] at h
  | loc k => exact hI.fresh k h

theorem getD_append_new {α} (l : List α) (x : α) (k : Nat) (d : α) :
    (l ++ [x]).getD k d = if k < l.length then l.getD k d else if k = l.length then x else d := by
  rw [List.getD_eq_getElem?_getD, List.getD_eq_getElem?_getD]
  split_ifs with h1 h2
  · rw [List.getElem?_append_left h1]
  · rw [h2, List.getElem?_concat_length]; rfl
  · rw [List.getElem?_eq_none (by rw [List.length_append, List.length_singleton]; omega)]; rfl

theorem lt_length_concat {α} (l : List α) (x : α) : l.length < (l ++ [x]).length := by
  rw [List.length_append]; exact Nat.lt_succ_self _

theorem Inv.alloc {n0 h0 flags s} (hI : Inv n0 h0 flags s) (v : Buf) :
    Inv n0 h0 flags { s with heap := s.heap ++ [v] } where
  len := hI.len.trans (lt_length_concat _ v).le
  old i hi := by
    rw [getD_append_new, if_pos (lt_of_lt_of_le hi hI.len)]
    exact hI.old i hi
  loc_len := hI.loc_len
  fresh k hk := ⟨(hI.fresh k hk).1, (hI.fresh k hk).2.trans (lt_length_concat _ v)⟩

theorem Inv.bind {n0 h0 flags s} (hI : Inv n0 h0 flags s) {x : Nat} {b : Bool}
    (hx : b = true → n0 ≤ x ∧ x < s.heap.length) :
    Inv n0 h0 (flags ++ [b]) { s with locals := s.locals ++ [x] } where
  len := hI.len
  old := hI.old
  loc_len := by simp [hI.loc_len]
  fresh k hk := by
    simp only [getD_append_new, hI.loc_len] at hk ⊢
    split_ifs at hk ⊢
    exacts [hI.fresh k hk, hx hk]

theorem Inv.write {n0 h0 flags s} (hI : Inv n0 h0 flags s) {x : Nat} (hx : n0 ≤ x) (v : Buf) :
    Inv n0 h0 flags { s with heap := s.heap.set x v } where
  len := by rw [List.length_set]; exact hI.len
  old i hi := by
    rw [List.getD_eq_getElem?_getD, List.getElem?_set_ne (by omega)]
    exact hI.old i hi
  loc_len := hI.loc_len
  fresh k hk := by rw [List.length_set]; exact hI.fresh k hk

theorem inv_step {n0 h0 flags s} (hI : Inv n0 h0 flags s) (args : Nat → Nat) (vals : Buf) (i : Instr)
    (hs : (match i with | .write dst => refFresh flags dst | _ => true) = true) :
    Inv n0 h0 (flagsStep flags i) (exec1 args s vals i) := by
  cases i with
  | allocNew | allocCopy src => exact (hI.alloc _).bind fun _ => ⟨hI.len, lt_length_concat _ _⟩
  | viewOf src => exact hI.bind (refFresh_ge hI args src)
  | write dst => exact hI.write (refFresh_ge hI args dst hs).1 vals

theorem inv_exec {n0 h0} (args : Nat → Nat) (oracle : Nat → Buf) (is : List Instr) :
    ∀ flags s n, Inv n0 h0 flags s → writesSafe flags is = true →
      Inv n0 h0 (finalFlags flags is) (exec args oracle s n is) := by
  induction is with
  | nil => intro flags s n hI _; exact hI
  | cons i is ih =>
    intro flags s n hI hw
    simp only [writesSafe, Bool.and_eq_true] at hw
    exact ih _ _ _ (inv_step hI args (oracle n) i hw.1) hw.2

theorem inv_prog (p : Prog) (h : noMutation p = true) (heap : List Buf) (args : Nat → Nat) (oracle : Nat → Buf) :
    Inv heap.length heap (finalFlags [] p.instrs) (exec args oracle ⟨heap, []⟩ 0 p.instrs) :=
  inv_exec args oracle p.instrs [] _ 0 ⟨le_refl _, fun _ _ => rfl, rfl, by intro k hk; simp at hk⟩ h

/-- **no mutation**: an operation whose program passes `noMutation` leaves every pre-existing array
    byte-for-byte unchanged — for every heap, every placement and aliasing of the operand arrays
    and every computed content. -/
theorem op_no_mutation (p : Prog) (h : noMutation p = true) (heap : List Buf) (args : Nat → Nat)
    (oracle : Nat → Buf) (i : Nat) (hi : i < heap.length) :
    (exec args oracle ⟨heap, []⟩ 0 p.instrs).heap.getD i [] = heap.getD i [] :=
  (inv_prog p h heap args oracle).old i hi

/-- **no aliasing**: if moreover the program passes `resultFresh`, every array exposed by the result
    is storage allocated by the operation itself, disjoint from everything that existed before. -/
theorem op_fresh (p : Prog) (h : noMutation p = true) (hr : resultFresh p = true) (heap : List Buf)
    (args : Nat → Nat) (oracle : Nat → Buf) (r : Ref) (hrm : r ∈ p.result) :
    heap.length ≤ resolve args (exec args oracle ⟨heap, []⟩ 0 p.instrs) r :=
  (refFresh_ge (inv_prog p h heap args oracle) args r (List.all_eq_true.mp hr r hrm)).1

/-- every operation in the property's scope, as transcribed in BR/Model/HeapOps.lean, passes both analyses -/
theorem scope_ops_value_semantics :
    ∀ op ∈ HeapOps.scope, noMutation op.2 = true ∧ resultFresh op.2 = true := by
  decide +kernel  -- evaluated by the kernel alone; plain `decide` has the elaborator evaluate the table first, at twice the cost

end BR.C14
