/-
  C15 — the planner's collision test equals exact segment-versus-box intersection.
  `obstruction{0,1,2}_gen` are REGENERATED from basic_robotics/path_planning/pathplanner.py on every run
  (BR/Gen/C15.lean); the theorems are about that text.
-/
import BR.Real
import BR.Gen.C15
import BR.Lemmas.SegBox

namespace BR.C15
open BR.Gen

theorem ite_false_true_iff (c : Prop) [Decidable c] (b : Bool) :
    (if c then false else b) = true ↔ ¬c ∧ b = true := by
  split_ifs with h <;> simp [h]

theorem ite_or_lift (c : Prop) [Decidable c] (T X Y : Bool) (h : X = (Y || T)) :
    (if c then T else X) = ((if c then false else Y) || T) := by
  split_ifs <;> simp [h]

variable {K : Type} [Field K] [LinearOrder K] [IsStrictOrderedRing K]

/-- Specification: the closed segment p1→p2 meets the closed axis-aligned box with corners lo, hi. -/
def SegHitsBox (p1x p1y p1z p2x p2y p2z lox loy loz hix hiy hiz : K) : Prop :=
  ∃ t : K, (0 ≤ t ∧ t ≤ 1) ∧
    (min lox hix ≤ p1x + t * (p2x - p1x) ∧ p1x + t * (p2x - p1x) ≤ max lox hix) ∧
    (min loy hiy ≤ p1y + t * (p2y - p1y) ∧ p1y + t * (p2y - p1y) ≤ max loy hiy) ∧
    (min loz hiz ≤ p1z + t * (p2z - p1z) ∧ p1z + t * (p2z - p1z) ≤ max loz hiz)

/-- the six tests of the separating-axis method for a centred box with half-extents `|e|` and a segment
    with midpoint `m` and half-direction `d` -/
def SatTests (mx my mz dx dy dz ex ey ez : K) : Prop :=
  |mx| ≤ |ex| + |dx| ∧ |my| ≤ |ey| + |dy| ∧ |mz| ≤ |ez| + |dz| ∧
    |my * dz - mz * dy| ≤ |ey| * |dz| + |ez| * |dy| ∧
    |mx * dz - mz * dx| ≤ |ex| * |dz| + |ez| * |dx| ∧
    |mx * dy - my * dx| ≤ |ex| * |dy| + |ey| * |dx|

theorem gen1_iff_sat (p1x p1y p1z p2x p2y p2z lox loy loz hix hiy hiz : K) :
    @obstruction1_gen K (OrdField.ofField K) p1x p1y p1z p2x p2y p2z lox loy loz hix hiy hiz = true ↔
    (|(p1x+p2x)/2 - (hix+lox)/2| ≤ |hix - (hix+lox)/2| + |(p1x-p2x)/2| ∧ 
     |(p1y+p2y)/2 - (hiy+loy)/2| ≤ |hiy - (hiy+loy)/2| + |(p1y-p2y)/2| ∧ 
     |(p1z+p2z)/2 - (hiz+loz)/2| ≤ |hiz - (hiz+loz)/2| + |(p1z-p2z)/2| ∧ 
     |((p1y+p2y)/2 - (hiy+loy)/2) * ((p1z-p2z)/2) - ((p1z+p2z)/2 - (hiz+loz)/2) * ((p1y-p2y)/2)| ≤ 
        |hiy - (hiy+loy)/2| * |(p1z-p2z)/2| + |hiz - (hiz+loz)/2| * |(p1y-p2y)/2| ∧
     |((p1x+p2x)/2 - (hix+lox)/2) * ((p1z-p2z)/2) - ((p1z+p2z)/2 - (hiz+loz)/2) * ((p1x-p2x)/2)| ≤ 
        |hix - (hix+lox)/2| * |(p1z-p2z)/2| + |hiz - (hiz+loz)/2| * |(p1x-p2x)/2| ∧
     |((p1x+p2x)/2 - (hix+lox)/2) * ((p1y-p2y)/2) - ((p1y+p2y)/2 - (hiy+loy)/2) * ((p1x-p2x)/2)| ≤ 
        |hix - (hix+lox)/2| * |(p1y-p2y)/2| + |hiy - (hiy+loy)/2| * |(p1x-p2x)/2|) := by
  unfold obstruction1_gen
  simp only [sabs_field, ofNat_field, ite_false_true_iff, not_lt, and_true]
  -- The traced text is regenerated from /repo on every check.  As the generator prints it, both sides are
  -- `SatTests` of nine subterms, the traced code writing midpoint and half-direction in its own way: small ring
  -- identities.  (A reshuffle of the source that changes the shape of the traced tests breaks this step even if
  -- it is harmless; normalising the whole goal with `ring_nf` would decide then, beyond the default recursion depth.)
  show SatTests _ _ _ _ _ _ _ _ _ ↔ SatTests _ _ _ _ _ _ _ _ _
  exact iff_of_eq (by congr 1 <;> ring)

theorem exists_unit_iff (P : K → Prop) :
    (∃ s, (-1 ≤ s ∧ s ≤ 1) ∧ P s) ↔ ∃ t, (0 ≤ t ∧ t ≤ 1) ∧ P (1 - 2 * t) := by
  constructor
  · rintro ⟨s, ⟨h0, h1⟩, h⟩
    obtain ⟨t, rfl⟩ : ∃ t, s = 1 - 2 * t := ⟨(1 - s) / 2, by ring⟩
    exact ⟨t, ⟨by linarith, by linarith⟩, h⟩
  · rintro ⟨t, ⟨h0, h1⟩, h⟩
    exact ⟨1 - 2 * t, ⟨by linarith, by linarith⟩, h⟩

/-- **C15, one box.** The traced collision test answers `true` exactly when the closed segment
    meets the closed box — every segment (zero-length, axis-parallel, touching, piercing,
    contained), every box (corners in any order), over any linear ordered field. -/
theorem obstructedBox_iff (p1x p1y p1z p2x p2y p2z lox loy loz hix hiy hiz : K) :
    @obstruction1_gen K (OrdField.ofField K) p1x p1y p1z p2x p2y p2z lox loy loz hix hiy hiz = true ↔
    SegHitsBox p1x p1y p1z p2x p2y p2z lox loy loz hix hiy hiz := by
  -- on each axis the centred form at `s = 1 - 2 t` is the point at `t` on the way from `p1` to `p2`,
  -- taken from the box centre
  have e : ∀ p1 p2 c t : K, (p1 + p2) / 2 - c + (1 - 2 * t) * ((p1 - p2) / 2) = p1 + t * (p2 - p1) - c :=
    fun _ _ _ _ => by ring
  rw [gen1_iff_sat, SegBox.sat_iff, exists_unit_iff]
  · simp only [SegHitsBox, SegBox.slab_iff, e]
  all_goals exact abs_nonneg _

/-- the loop over boxes: two boxes = disjunction of the one-box tests (0 boxes: never obstructed) -/
theorem obstruction2_eq_or (p1x p1y p1z p2x p2y p2z ax ay az bx b_y bz cx cy cz dx dy dz : K) :
    @obstruction2_gen K (OrdField.ofField K) p1x p1y p1z p2x p2y p2z ax ay az bx b_y bz cx cy cz dx dy dz =
    (@obstruction1_gen K (OrdField.ofField K) p1x p1y p1z p2x p2y p2z ax ay az bx b_y bz ||
     @obstruction1_gen K (OrdField.ofField K) p1x p1y p1z p2x p2y p2z cx cy cz dx dy dz) := by
  unfold obstruction2_gen
  conv => rhs; arg 1; unfold obstruction1_gen
  -- generated shape: six nested `if sepᵢ then (second box) else …` ending in `true`
  iterate 6 refine ite_or_lift _ _ _ _ ?_
  exact (Bool.true_or _).symm

theorem obstruction0_never : obstruction0_gen = false := rfl

/-- **C15, any set of boxes.** The loop over the registered boxes answers `true` exactly when the
    segment meets at least one box (the loop structure itself is tied by `obstruction2_eq_or`
    and `obstruction0_never`, regenerated from the source with 0, 1 and 2 symbolic boxes). -/
theorem obstruction_iff_any (p1x p1y p1z p2x p2y p2z : K) (boxes : List ((K × K × K) × (K × K × K))) :
    (boxes.any fun b => @obstruction1_gen K (OrdField.ofField K) p1x p1y p1z p2x p2y p2z
        b.1.1 b.1.2.1 b.1.2.2 b.2.1 b.2.2.1 b.2.2.2) = true ↔
    ∃ b ∈ boxes, SegHitsBox p1x p1y p1z p2x p2y p2z b.1.1 b.1.2.1 b.1.2.2 b.2.1 b.2.2.1 b.2.2.2 := by
  simp only [List.any_eq_true, obstructedBox_iff]

/-! Non-vacuity: a piercing, a touching (boundary contact only) and a missing segment.  The midpoint is in the box:
  concrete rational arithmetic, evaluated by the kernel (the elaborator's `decide` gets stuck on the division of `ℚ`). -/
example : SegHitsBox (K := ℚ) (-2) 0 0 2 0 0 (-1) (-1) (-1) 1 1 1 :=
  ⟨1 / 2, by decide +kernel⟩
example : SegHitsBox (K := ℚ) 1 (-2) 0 1 2 0 (-1) (-1) (-1) 1 1 1 :=
  ⟨1 / 2, by decide +kernel⟩
example : ¬ SegHitsBox (K := ℚ) 2 (-2) 0 2 2 0 (-1) (-1) (-1) 1 1 1 := by
  rintro ⟨t, _, ⟨_, h⟩, _⟩
  norm_num at h
example : @obstruction1_gen ℚ (OrdField.ofField ℚ) 1 (-2) 0 1 2 0 (-1) (-1) (-1) 1 1 1 = true := by
  rw [obstructedBox_iff]; exact ⟨1 / 2, by decide +kernel⟩

end BR.C15
