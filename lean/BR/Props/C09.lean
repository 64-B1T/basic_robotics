/-
  C09 — Stewart platform: IK is exact geometry, depends only on the relative plate pose, and the
  Newton–Raphson FK loop — when it stops on its residual test — returns a pose whose leg lengths are the
  requested ones up to a bound computed from the tolerance.

  (That the loop *does* stop on a pose close to the one the lengths came from is a convergence statement about
   a quasi-Newton iteration with an approximate Jacobian; it is decided on the implementation by harness/c09.py.)
-/
import BR.Lemmas.SE3
import BR.Model.SP

namespace BR.C09
open BR.SP BR.MR BR.Rot

/-- **IK is exact geometry**: leg i is the distance between the bottom joint carried by the bottom plate pose and
    the top joint carried by the top plate pose -/
theorem ik_is_distance (Tb Tt : T4 ℝ) (legs : List (Leg ℝ)) :
    lengths Tb Tt legs = legs.map (fun l => norm3 (Tt.act l.t - Tb.act l.b)) ∧
    (spIK Tb Tt legs).map (·.2.1) = legs.map (fun l => Tb.act l.b) ∧
    (spIK Tb Tt legs).map (·.2.2) = legs.map (fun l => Tt.act l.t) := by
  unfold lengths spIK trVec
  simp

theorem lengths_isometry (G Tb Tt : T4 ℝ) (hG : G.R.T * G.R = M3.one) (legs : List (Leg ℝ)) :
    lengths (G * Tb) (G * Tt) legs = lengths Tb Tt legs := by
  rw [(ik_is_distance _ _ _).1, (ik_is_distance _ _ _).1]
  apply List.map_congr_left
  intro l _
  rw [T4.act_mul, T4.act_mul, T4.act_sub_act, norm3_orth _ hG]

/-- **moving both plates by one rigid motion leaves every leg length unchanged** -/
theorem ik_rigid_invariant (G Tb Tt : T4 ℝ) (hG : IsRot G.R) (legs : List (Leg ℝ)) :
    lengths (G * Tb) (G * Tt) legs = lengths Tb Tt legs :=
  lengths_isometry G Tb Tt hG.1 legs

/-- **the lengths depend only on the relative plate pose** inv(bottom)·top -/
theorem ik_relative_only (Tb Tt : T4 ℝ) (hB : IsRot Tb.R) (legs : List (Leg ℝ)) :
    lengths Tb Tt legs = lengths T4.one (transInv Tb * Tt) legs := by
  rw [← ik_rigid_invariant (transInv Tb) Tb Tt (isRot_T hB) legs, transInv_mul Tb hB.1]

theorem sq3_eq (v : V3 ℝ) : sq3 v = norm3 v ^ 2 := by
  rw [norm3_sq]; unfold sq3; ring

/-- residual of leg i at the guess (p, w) = L_i² − (length of leg i at the relative pose tm(p, w))² -/
theorem fkRes_eq (g : V6 ℝ) (l : Leg ℝ) (L : ℝ) :
    fkRes g.a (matrixExp3 (hat g.b)) l L =
      L ^ 2 - norm3 ((BR.TmModel.taaToTM g).act l.t - (T4.one : T4 ℝ).act l.b) ^ 2 := by
  have : (BR.TmModel.taaToTM g).act l.t - (T4.one : T4 ℝ).act l.b = (g.a - l.b) + (matrixExp3 (hat g.b)).mulVec l.t := by
    rw [T4.act_one]
    show (matrixExp3 (hat g.b)).mulVec l.t + g.a - l.b = _
    abel
  rw [this, ← sq3_eq]
  unfold fkRes
  simp only [ofNat_real_one]
  ring

theorem sumAbs_eq : ∀ l : List ℝ, sumAbs l = (l.map (|·|)).sum
  | [] => by simp only [sumAbs, ofNat_real_zero, List.map_nil, List.sum_nil]
  | x :: xs => by rw [sumAbs, sumAbs_eq xs, sabs_real', List.map_cons, List.sum_cons]

theorem mem_le_sumAbs (l : List ℝ) (x : ℝ) (h : x ∈ l) : |x| ≤ sumAbs l := by
  rw [sumAbs_eq]
  exact List.single_le_sum (fun y hy => by obtain ⟨z, _, rfl⟩ := List.mem_map.1 hy; exact abs_nonneg z) _
    (List.mem_map_of_mem h)

theorem raphson_spec (solve : List (List ℝ) → List ℝ → List ℝ) (legs : List (Leg ℝ)) (L : List ℝ)
    (tolF tolA lmin : ℝ) (fuel it : Nat) (g : V6 ℝ) :
    (raphson solve legs L tolF tolA lmin fuel it g).2.1 ≤ it + fuel ∧
    ((raphson solve legs L tolF tolA lmin fuel it g).2.2 = Exit.budget →
      (raphson solve legs L tolF tolA lmin fuel it g).2.1 = it + fuel) ∧
    ((raphson solve legs L tolF tolA lmin fuel it g).2.2 = Exit.residual →
      sumAbs (residuals legs L (raphson solve legs L tolF tolA lmin fuel it g).1) < tolF) := by
  induction fuel generalizing it g with
  | zero => exact ⟨le_rfl, fun _ => rfl, nofun⟩
  | succ n ih =>
    rw [raphson]
    split
    · exact ⟨Nat.add_le_add_left (Nat.le_add_left 1 n) it, nofun, fun _ => ‹_›⟩
    · split
      · exact ⟨Nat.add_le_add_left (Nat.le_add_left 1 n) it, nofun, nofun⟩
      · obtain ⟨h1, h2, h3⟩ := ih (it + 1) _
        exact ⟨by omega, fun h => by rw [h2 h]; omega, h3⟩

/-- **residual exit is sound**: when SPFKinSpaceR stops on its residual test, the summed absolute squared-length
    residual at the pose it returns is below the tolerance — for any linear solver, any start, any iteration budget -/
theorem raphson_residual_exit (solve : List (List ℝ) → List ℝ → List ℝ) (legs : List (Leg ℝ)) (L : List ℝ)
    (tolF tolA lmin : ℝ) (fuel it : Nat) (g g' : V6 ℝ) (it' : Nat)
    (h : raphson solve legs L tolF tolA lmin fuel it g = (g', it', Exit.residual)) :
    sumAbs (residuals legs L g') < tolF := by
  have := (raphson_spec solve legs L tolF tolA lmin fuel it g).2.2
  rw [h] at this
  exact this rfl

/-- the iteration count reported never exceeds the budget, and the budget exit reports exactly the budget -/
theorem raphson_iters (solve : List (List ℝ) → List ℝ → List ℝ) (legs : List (Leg ℝ)) (L : List ℝ)
    (tolF tolA lmin : ℝ) (fuel it : Nat) (g g' : V6 ℝ) (it' : Nat) (e : Exit)
    (h : raphson solve legs L tolF tolA lmin fuel it g = (g', it', e)) :
    it' ≤ it + fuel ∧ (e = Exit.budget → it' = it + fuel) := by
  have := raphson_spec solve legs L tolF tolA lmin fuel it g
  rw [h] at this
  exact ⟨this.1, this.2.1⟩

theorem length_of_sq_residual (ℓ L ε : ℝ) (hℓ : 0 ≤ ℓ) (hL : 0 < L) (h : |L ^ 2 - ℓ ^ 2| < ε) : |ℓ - L| < ε / L := by
  rw [lt_div_iff₀ hL]
  calc |ℓ - L| * L ≤ |ℓ - L| * (L + ℓ) := mul_le_mul_of_nonneg_left (le_add_of_nonneg_right hℓ) (abs_nonneg _)
    _ = |L ^ 2 - ℓ ^ 2| := by
      rw [sq_sub_sq, abs_mul, abs_of_pos (add_pos_of_pos_of_nonneg hL hℓ), abs_sub_comm ℓ L, mul_comm]
    _ < ε := h

/-- **lengths after a residual exit are the requested ones**: if SPFKinSpaceR stops on its residual test at the
    guess g', then the platform's IK at the relative pose tm(g') — which is what `_FKRaphson` publishes, at any base
    placement by `ik_relative_only` — has every leg within tol_f / L_i of the requested length L_i -/
theorem fk_lengths_accurate (solve : List (List ℝ) → List ℝ → List ℝ) (legs : List (Leg ℝ)) (L : List ℝ)
    (tolF tolA lmin : ℝ) (fuel it : Nat) (g g' : V6 ℝ) (it' : Nat)
    (h : raphson solve legs L tolF tolA lmin fuel it g = (g', it', Exit.residual))
    (i : Nat) (hi : i < legs.length) (hiL : i < L.length) (hpos : 0 < L[i]) :
    |norm3 ((BR.TmModel.taaToTM g').act (legs[i]).t - (T4.one : T4 ℝ).act (legs[i]).b) - L[i]| < tolF / L[i] := by
  have hlen : i < (residuals legs L g').length := by
    unfold residuals; rw [List.length_zipWith]; exact lt_min hi hiL
  have hle := mem_le_sumAbs _ _ (List.getElem_mem hlen)
  have hres : (residuals legs L g')[i] = fkRes g'.a (matrixExp3 (hat g'.b)) legs[i] L[i] := List.getElem_zipWith
  rw [hres, fkRes_eq] at hle
  exact length_of_sq_residual _ _ _ (norm3_nonneg _) hpos
    (lt_of_le_of_lt hle (raphson_residual_exit solve legs L tolF tolA lmin fuel it g g' it' h))

/-- the published lengths of a platform standing anywhere equal those of the relative pose (instance used with
    `fk_lengths_accurate`: `_FKRaphson` publishes IK(bottom · tm(g'), bottom)) -/
theorem published_lengths (bottom : T4 ℝ) (hB : IsRot bottom.R) (g' : V6 ℝ) (legs : List (Leg ℝ)) :
    lengths bottom (bottom * BR.TmModel.taaToTM g') legs = lengths T4.one (BR.TmModel.taaToTM g') legs := by
  rw [← ik_rigid_invariant bottom T4.one (BR.TmModel.taaToTM g') hB legs, T4_mul_one]

/-- non-vacuity: the residual test can fire — at the exact pose the residuals are all zero -/
example (g : V6 ℝ) (l : Leg ℝ) :
    fkRes g.a (matrixExp3 (hat g.b)) l (norm3 ((BR.TmModel.taaToTM g).act l.t - (T4.one : T4 ℝ).act l.b)) = 0 := by
  rw [fkRes_eq]; ring

end BR.C09
