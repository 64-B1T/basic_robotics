/-
  C19 — the message router delivers each received message exactly once per active rule.
  Property theorems about BR/Model/Comms.lean (hand-written model, tied to
  basic_robotics/interfaces/comms_core.py by the correspondence check harness/c19.py).

  The rule tables are read through `Table.at` (but a spin, like the code, polls an endpoint whose key is present even
  when its list has become empty: `spinOne` tests `isSome`); `register`/`unregister` are characterised on it
  (`register_eq`, `unregister_eq`), `getData` by its two equations (`getData_of_mem`,
  `unknown_port_silent`), and "receiving and spinning leave the rules alone" is the relation `SameRules`.
-/
import BR.Model.Comms
import Mathlib.Data.List.Nodup

namespace BR.C19
open BR.Comms

def TableOK (t : Table) : Prop := ∀ k l, t k = some l → l.Nodup

theorem at_upd (t : Table) (k x : Name) (v : List Nat) :
    (t.upd k v).at x = if x = k then v else t.at x := by
  unfold Table.at Table.upd
  split_ifs <;> rfl

theorem TableOK.nodup_at {t : Table} (h : TableOK t) (k : Name) : (t.at k).Nodup := by
  unfold Table.at
  cases hk : t k with
  | none => exact List.nodup_nil
  | some l => exact h k l hk

theorem TableOK.upd {t : Table} (h : TableOK t) (k : Name) {v : List Nat} (hv : v.Nodup) :
    TableOK (t.upd k v) := by
  intro x l hl
  unfold Table.upd at hl
  split_ifs at hl
  · cases hl; exact hv
  · exact h x l hl

/-- an absent key behaves as an empty entry list, so both operations are functions of `t.at k` -/
theorem register_eq (t : Table) (k : Name) (x : Nat) :
    register t k x = if x ∈ t.at k then (t, false) else (t.upd k (t.at k ++ [x]), true) := by
  unfold register Table.at
  cases t k <;> simp

theorem unregister_eq (t : Table) (k : Name) (x : Nat) :
    unregister t k x = if x ∈ t.at k then (t.upd k ((t.at k).erase x), true) else (t, false) := by
  unfold unregister Table.at
  cases t k <;> simp

theorem register_ok {t : Table} (h : TableOK t) (k : Name) (x : Nat) : TableOK (register t k x).1 := by
  rw [register_eq]
  split_ifs with hx
  · exact h
  · exact h.upd k ((h.nodup_at k).append (List.nodup_singleton x) (by simpa using hx))

theorem unregister_ok {t : Table} (h : TableOK t) (k : Name) (x : Nat) : TableOK (unregister t k x).1 := by
  rw [unregister_eq]
  split_ifs
  · exact h.upd k ((h.nodup_at k).erase x)
  · exact h

theorem register_reports (t : Table) (k : Name) (x : Nat) :
    (register t k x).2 = true ↔ ∃ k', (register t k x).1.at k' ≠ t.at k' := by
  rw [register_eq]
  split_ifs
  · simp
  · exact iff_of_true rfl ⟨k, by simp [at_upd]⟩

theorem unregister_reports (t : Table) (k : Name) (x : Nat) :
    (unregister t k x).2 = true ↔ ∃ k', (unregister t k x).1.at k' ≠ t.at k' := by
  rw [unregister_eq]
  split_ifs with hx
  · exact iff_of_true rfl ⟨k, by simp [at_upd, hx]⟩
  · simp

/-! ### receiving and spinning leave the rules alone -/

structure SameRules (s s' : St) : Prop where
  fwd : s'.fwd = s.fwd
  sinks : s'.sinks = s.sinks
  srcs : s'.srcs = s.srcs

theorem SameRules.refl (s : St) : SameRules s s := ⟨rfl, rfl, rfl⟩

theorem SameRules.trans {s s' s'' : St} (h : SameRules s s') (h' : SameRules s' s'') : SameRules s s'' :=
  ⟨h'.fwd.trans h.fwd, h'.sinks.trans h.sinks, h'.srcs.trans h.srcs⟩

/-- unknown port: nothing happens at all -/
theorem unknown_port_silent (s : St) (i : Name) (hi : i ∉ s.names) :
    getData s i = (s, Ret.none, []) := by
  unfold getData; rw [if_neg hi]

theorem getData_of_mem {s : St} {i : Name} (hi : i ∈ s.names) :
    getData s i = (setEp s i (recv (s.ep i)).1, Ret.data (recv (s.ep i)).2,
      match (recv (s.ep i)).2 with
      | none => []
      | some m => (s.fwd.at i).map (fun d => sendEv (setEp s i (recv (s.ep i)).1) d (some m)) ++
          (s.sinks.at i).map fun h => Ev.sink h (some m)) := by
  unfold getData
  rw [if_pos hi]
  rcases recv (s.ep i) with ⟨e, _ | m⟩ <;> rfl

theorem getData_same (s : St) (i : Name) : SameRules s (getData s i).1 := by
  by_cases hi : i ∈ s.names
  · rw [getData_of_mem hi]; exact ⟨rfl, rfl, rfl⟩
  · rw [unknown_port_silent s i hi]; exact .refl s

theorem callSources_same (s : St) (n : Name) (hs : List Nat) : SameRules s (callSources s n hs).1 := by
  induction hs generalizing s with
  | nil => exact .refl s
  | cons h hs ih =>
    refine .trans ?_ (ih _)
    exact ⟨rfl, rfl, rfl⟩

theorem spinOne_same (s : St) (n : Name) : SameRules s (spinOne s n).1 := by
  have h1 := callSources_same s n (s.srcs.at n)
  simp only [spinOne]
  split_ifs
  · exact h1.trans (getData_same _ n)
  · exact h1

theorem spinNames_same (s : St) (ns : List Name) : SameRules s (spinNames s ns).1 := by
  induction ns generalizing s with
  | nil => exact .refl s
  | cons n ns ih => exact (spinOne_same s n).trans (ih _)

theorem spinK_same (s : St) (k : Nat) : SameRules s (spinK s k).1 := by
  induction k generalizing s with
  | zero => exact .refl s
  | succ k ih => exact (spinNames_same s s.names).trans (ih _)

/-- rule tables never hold a duplicate: the structural reason for "exactly once" -/
def Inv (s : St) : Prop := TableOK s.fwd ∧ TableOK s.sinks ∧ TableOK s.srcs

theorem SameRules.inv {s s' : St} (h : SameRules s s') (hs : Inv s) : Inv s' := by
  unfold Inv
  rw [h.fwd, h.sinks, h.srcs]
  exact hs

theorem inv_init (names : List Name) : Inv (init names) := by
  refine ⟨?_, ?_, ?_⟩ <;> intro k l h <;> cases h

theorem inv_step (s : St) (op : Op) (h : Inv s) : Inv (step s op).1 := by
  cases op with
  | fwd i o =>
    dsimp only [step]; split_ifs
    · exact ⟨register_ok h.1 _ _, h.2⟩
    · exact h
  | del i o =>
    dsimp only [step]; split_ifs
    · exact ⟨unregister_ok h.1 _ _, h.2⟩
    · exact h
  | sink i x =>
    cases x with
    | none => exact h
    | some x =>
      dsimp only [step]; split_ifs
      · exact ⟨h.1, register_ok h.2.1 _ _, h.2.2⟩
      · exact h
  | source o x =>
    cases x with
    | none => exact h
    | some x =>
      dsimp only [step]; split_ifs
      · exact ⟨h.1, h.2.1, register_ok h.2.2 _ _⟩
      · exact h
  | get i => exact (getData_same s i).inv h
  | spin k => exact (spinK_same s k).inv h
  | send n d | opn n | cls n => dsimp only [step]; split_ifs <;> exact h
  | inject n d => exact h

theorem inv_run (s : St) (ops : List Op) (h : Inv s) : Inv (run s ops).1 := by
  induction ops generalizing s with
  | nil => exact h
  | cons op ops ih => simp only [run]; exact ih _ (inv_step s op h)

theorem history_inv (names : List Name) (ops : List Op) : Inv (run (init names) ops).1 :=
  inv_run _ _ (inv_init names)

def sendsTo (d : Name) (evs : List Ev) : Nat :=
  (evs.filter fun e => match e with | .send n _ _ => n == d | _ => false).length
def sinkCalls (h : Nat) (evs : List Ev) : Nat :=
  (evs.filter fun e => match e with | .sink x _ => x == h | _ => false).length

/-- **delivery**: a received message goes to the current destinations and sinks of that endpoint,
    in order, with that payload, and to nothing else. -/
theorem getData_delivery (s : St) (i : Name) (hi : i ∈ s.names) (m : Nat)
    (hrx : (recv (s.ep i)).2 = some m) :
    (getData s i).2.1 = Ret.data (some m) ∧
    (getData s i).2.2 =
      (s.fwd.at i).map (fun d => Ev.send d (some m) (((getData s i).1.ep d).isOpen)) ++
      (s.sinks.at i).map (fun h => Ev.sink h (some m)) := by
  rw [getData_of_mem hi, hrx]
  exact ⟨rfl, rfl⟩

theorem sendsTo_append (d : Name) (a b : List Ev) : sendsTo d (a ++ b) = sendsTo d a + sendsTo d b := by
  simp only [sendsTo, List.filter_append, List.length_append]

theorem sendsTo_map_send (l : List Name) (d : Name) (m : Option Nat) (f : Name → Bool) :
    sendsTo d (l.map fun x => Ev.send x m (f x)) = l.count d := by
  simp [sendsTo, List.filter_map, Function.comp_def, List.count, List.countP_eq_length_filter]

theorem sendsTo_map_sink (d : Name) (l : List Nat) (m : Option Nat) :
    sendsTo d (l.map fun h => Ev.sink h m) = 0 := by
  simp [sendsTo, List.filter_map]

/-- **exactly once per destination** (uses the no-duplicates invariant) -/
theorem getData_once_per_destination (s : St) (hinv : Inv s) (i : Name) (hi : i ∈ s.names) (m : Nat)
    (hrx : (recv (s.ep i)).2 = some m) (d : Name) :
    sendsTo d (getData s i).2.2 = if d ∈ s.fwd.at i then 1 else 0 := by
  rw [(getData_delivery s i hi m hrx).2, sendsTo_append, sendsTo_map_send, sendsTo_map_sink]
  split_ifs with hd
  · exact List.count_eq_one_of_mem (hinv.1.nodup_at i) hd
  · exact List.count_eq_zero_of_not_mem hd

/-- **no data, no effect**: a receive that yields nothing delivers nothing and forwards nothing. -/
theorem receive_none_silent (s : St) (i : Name) (hrx : (recv (s.ep i)).2 = none) :
    (getData s i).2.2 = [] ∧ ((getData s i).2.1 = Ret.data none ∨ (getData s i).2.1 = Ret.none) := by
  by_cases hi : i ∈ s.names
  · rw [getData_of_mem hi, hrx]; exact ⟨rfl, Or.inl rfl⟩
  · rw [unknown_port_silent s i hi]; exact ⟨rfl, Or.inr rfl⟩

/-- a closed port yields no data -/
theorem closed_port_no_data (e : EP) (h : e.isOpen = false) : (recv e).2 = none := by
  unfold recv; simp [h]

/-! ### registration calls report success exactly when they changed the rule set -/

def rulesChanged (s s' : St) : Prop :=
  ∃ k, s'.fwd.at k ≠ s.fwd.at k ∨ s'.sinks.at k ≠ s.sinks.at k ∨ s'.srcs.at k ≠ s.srcs.at k

def isRegistration : Op → Bool
  | .fwd _ _ | .del _ _ | .sink _ _ | .source _ _ => true
  | _ => false

/-- the conclusion of `registration_reports_change` for a call that returns `Ret.bool b` and leaves state `s'` -/
theorem reports_change {s s' : St} {b : Bool} (h : b = true ↔ rulesChanged s s') :
    (Ret.bool b = Ret.bool true ↔ rulesChanged s s') ∧
      (Ret.bool b = Ret.bool true ∨ Ret.bool b = Ret.bool false) := by
  cases b <;> simpa using h

theorem registration_reports_change (s : St) (op : Op) (hop : isRegistration op = true) :
    ((step s op).2.1 = Ret.bool true ↔ rulesChanged s (step s op).1) ∧
    ((step s op).2.1 = Ret.bool true ∨ (step s op).2.1 = Ret.bool false) := by
  have unchanged : false = true ↔ rulesChanged s s := by simp [rulesChanged]
  -- in `rulesChanged`, the disjuncts of the two tables a call does not touch drop out
  cases op with
  | fwd i o =>
    dsimp only [step]; split_ifs
    · exact reports_change ((register_reports s.fwd i o).trans
        (by simp only [rulesChanged, ne_eq, not_true_eq_false, or_false]))
    · exact reports_change unchanged
  | del i o =>
    dsimp only [step]; split_ifs
    · exact reports_change ((unregister_reports s.fwd i o).trans
        (by simp only [rulesChanged, ne_eq, not_true_eq_false, or_false]))
    · exact reports_change unchanged
  | sink i x =>
    cases x with
    | none => exact reports_change unchanged
    | some x =>
      dsimp only [step]; split_ifs
      · exact reports_change ((register_reports s.sinks i x).trans
          (by simp only [rulesChanged, ne_eq, not_true_eq_false, or_false, false_or]))
      · exact reports_change unchanged
  | source o x =>
    cases x with
    | none => exact reports_change unchanged
    | some x =>
      dsimp only [step]; split_ifs
      · exact reports_change ((register_reports s.srcs o x).trans
          (by simp only [rulesChanged, ne_eq, not_true_eq_false, false_or]))
      · exact reports_change unchanged
  | _ => cases hop

/-! ### the sources a spin calls -/

def srcCalls (evs : List Ev) : List Nat := evs.filterMap fun e => match e with | .src h => some h | _ => none

theorem srcCalls_append (a b : List Ev) : srcCalls (a ++ b) = srcCalls a ++ srcCalls b := by
  simp only [srcCalls, List.filterMap_append]

theorem callSources_calls (s : St) (n : Name) (hs : List Nat) : srcCalls (callSources s n hs).2 = hs := by
  induction hs generalizing s with
  | nil => rfl
  | cons h hs ih =>
    -- `srcCalls` keeps the `Ev.src h` at the head and skips the send that follows it
    exact congrArg (h :: ·) (ih _)

theorem getData_no_src (s : St) (i : Name) : srcCalls (getData s i).2.2 = [] := by
  by_cases hi : i ∈ s.names
  · rw [getData_of_mem hi]
    cases (recv (s.ep i)).2 with
    | none => rfl
    | some m => simp [srcCalls, sendEv]
  · rw [unknown_port_silent s i hi]; rfl

theorem spinOne_calls (s : St) (n : Name) : srcCalls (spinOne s n).2 = s.srcs.at n := by
  have h1 := callSources_calls s n (s.srcs.at n)
  simp only [spinOne]
  split_ifs
  · rw [srcCalls_append, h1, getData_no_src, List.append_nil]
  · exact h1

theorem spinNames_calls (s : St) (ns : List Name) :
    srcCalls (spinNames s ns).2 = ns.flatMap fun n => s.srcs.at n := by
  induction ns generalizing s with
  | nil => rfl
  | cons n ns ih =>
    simp only [spinNames, List.flatMap_cons]
    rw [srcCalls_append, spinOne_calls, ih, (spinOne_same s n).srcs]

/-- **the source calls of one spin are, endpoint by endpoint in the order of `names`, the sources registered
    for that endpoint in table order** (so each registered source is called once per spin when `names` lists
    no endpoint twice; the tables hold no duplicate by `Inv`) -/
theorem spin_sources_once (s : St) :
    srcCalls (singleSpin s).2 = s.names.flatMap fun n => s.srcs.at n :=
  spinNames_calls s s.names

/-- and `callSources` for endpoint `n` sends to `n` as many messages as it calls sources -/
theorem callSources_sends (s : St) (n : Name) (hs : List Nat) :
    sendsTo n (callSources s n hs).2 = hs.length := by
  induction hs generalizing s with
  | nil => rfl
  | cons h hs ih =>
    unfold sendsTo at ih ⊢
    -- of the two events a source adds, the filter drops the `src` and keeps the send to `n`
    simp [callSources, sendEv, ih]

/-! ### non-vacuity: a concrete hub meeting the hypotheses -/

def demo : St := (run (init [0, 1]) [.opn 0, .opn 1, .fwd 0 1, .fwd 0 1, .sink 0 (some 7), .inject 0 (some 42)]).1

example : 0 ∈ demo.names ∧ (recv (demo.ep 0)).2 = some 42 ∧ demo.fwd.at 0 = [1] ∧ demo.sinks.at 0 = [7] := by
  decide
example : (getData demo 0).2.2 = [Ev.send 1 (some 42) true, Ev.sink 7 (some 42)] := by decide
example : Inv demo := history_inv _ _

end BR.C19
