/-
  C07 — arm inverse kinematics never claims a pose it has not reached.
-/
import BR.Props.C05
import BR.Props.C02
import BR.Model.IK

namespace BR.C07
open BR.MR BR.Rot BR.MRRef BR.ArmModel BR.IKModel

/-- **a reported success meets the configured tolerances**: whatever the pseudo-inverse oracle does
    and whatever the iteration cap, `(θ, true)` implies the angular part of the error twist is within the
    orientation tolerance and the linear part within the position tolerance -/
theorem ikc_success_sound (eq0 : M3 ℝ → Bool) (home : T4 ℝ) (screws : List (V6 ℝ)) (goal : T4 ℝ)
    (rotTol posTol : ℝ) (mins maxs : List ℝ) (dθ : List ℝ → List ℝ) (maxIter : Nat) (θ0 : List ℝ) :
    let r := ikinSpaceConstrained eq0 home screws goal rotTol posTol mins maxs dθ maxIter θ0
    r.2 = true →
      norm3 (errTwist eq0 home screws goal r.1).a ≤ rotTol ∧ norm3 (errTwist eq0 home screws goal r.1).b ≤ posTol := by
  intro r h
  have := BR.C02.ikLoop_success_sound _ _ maxIter θ0 h
  exact (BR.C02.ikErr_false_iff rotTol posTol _).mp this

/-- **an unreachable goal is never reported as reached**: if no joint vector meets the tolerances (the test fails
    everywhere), the solver answers `false`, whatever the oracle and the cap — the flag is the negated test of the
    returned vector (`ikLoop_flag`) -/
theorem ikc_unreachable_never_true (eq0 : M3 ℝ → Bool) (home : T4 ℝ) (screws : List (V6 ℝ)) (goal : T4 ℝ)
    (rotTol posTol : ℝ) (mins maxs : List ℝ) (dθ : List ℝ → List ℝ) (maxIter : Nat) (θ0 : List ℝ)
    (hun : ∀ θ, ikTest eq0 home screws goal rotTol posTol θ = true) :
    (ikinSpaceConstrained eq0 home screws goal rotTol posTol mins maxs dθ maxIter θ0).2 = false := by
  rw [ikinSpaceConstrained, BR.C02.ikLoop_flag, hun]
  rfl

/-- whatever a loop returns satisfies every predicate that holds of the start and of every update -/
theorem ikLoop_range {Θ : Type} (P : Θ → Prop) (err : Θ → Bool) (upd : Θ → Θ) (hupd : ∀ θ, P (upd θ)) (fuel : Nat)
    (θ0 : Θ) (h0 : P θ0) : P (ikLoop err upd fuel θ0).1 := by
  induction fuel generalizing θ0 with
  | zero => exact h0
  | succ n ih =>
    unfold ikLoop
    split_ifs
    · exact ih (upd θ0) (hupd θ0)
    · exact h0

/-- every entry of θ lies within its limits (entries beyond the shorter of the two limit lists have none) -/
def InLimits (mins maxs θ : List ℝ) : Prop :=
  ∀ t ∈ θ.zip (mins.zip maxs), t.2.1 ≤ t.1 ∧ t.1 ≤ t.2.2

theorem clamp_inLimits (mins maxs θ : List ℝ) (h : ∀ p ∈ mins.zip maxs, p.1 ≤ p.2) :
    InLimits mins maxs (clamp mins maxs θ) :=
  BR.C05.clamp_within mins maxs θ h

/-- **the limit-respecting solver's answer lies inside the joint limits** (every iteration ends with the
    clamp; with zero iterations the answer is the start vector, inside the limits iff the start is) -/
theorem ikc_in_limits (eq0 : M3 ℝ → Bool) (home : T4 ℝ) (screws : List (V6 ℝ)) (goal : T4 ℝ)
    (rotTol posTol : ℝ) (mins maxs : List ℝ) (dθ : List ℝ → List ℝ) (maxIter : Nat) (θ0 : List ℝ)
    (hlim : ∀ p ∈ mins.zip maxs, p.1 ≤ p.2) (h0 : InLimits mins maxs θ0) :
    InLimits mins maxs (ikinSpaceConstrained eq0 home screws goal rotTol posTol mins maxs dθ maxIter θ0).1 :=
  ikLoop_range (InLimits mins maxs) _ _ (fun _ => clamp_inLimits mins maxs _ hlim) maxIter θ0 h0

/-- **the arm's state after a solve is coherent**, success or failure: the limit-respecting solver's write-back is an
    FK of the joint vector it stores, C05's `step_inv` at `Op.IK` (the limit-free solver is `step_inv` at `Op.IKfree`) -/
theorem ik_state_coherent (a : Arm ℝ) (θ : List ℝ) (hB : IsRot a.base.R)
    (hj : BR.C05.JointsOK a.S0 (clamp a.mins a.maxs θ)) :
    BR.C05.ArmInv (step a (Op.IK θ)) := BR.C05.step_inv a (Op.IK θ) ⟨hB, hj⟩

end BR.C07
