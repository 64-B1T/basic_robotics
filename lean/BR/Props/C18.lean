/-
  C18 — geometric helper functions satisfy their defining relations.
  Property theorems about BR/Model/Helpers.lean at ℝ.
-/
import BR.Lemmas.Log3
import BR.Model.Helpers

namespace BR.C18
open BR.MR BR.Rot BR.TmModel BR.Helpers

theorem plane_contains_points (p1 p2 p3 : V3 ℝ) :
    let pl := planeFromThreePoints p1 p2 p3
    V3.dot pl.1 p1 = pl.2 ∧ V3.dot pl.1 p2 = pl.2 ∧ V3.dot pl.1 p3 = pl.2 := by
  simp only [planeFromThreePoints]
  m3ring

/-! ### mirror: reflection across the local XY plane -/

noncomputable def localCoords (R : M3 ℝ) (o p : V3 ℝ) : V3 ℝ := R.T.mulVec (p - o)

theorem T_mulVec_col3 {R : M3 ℝ} (hR : IsRot R) : R.T.mulVec (col3 R) = ⟨0, 0, 1⟩ := by
  show col3 (R.T * R) = _
  rw [hR.1]
  simp only [col3, M3.one, ofNat_real_zero, ofNat_real_one]

/-- **what `mirror` computes**: the Householder reflection p ↦ p − 2 (ẑ·(p − o)) ẑ across the plane through the frame's
    origin o normal to its local z axis ẑ.  (The code's plane normal ŷ × x̂ is −ẑ, a unit vector orthogonal to ŷ.) -/
theorem mirror_eq (origin : Tm ℝ) (hR : IsRot origin.TM.R) (p : V3 ℝ) :
    mirror origin p = p - (2 * V3.dot (col3 origin.TM.R) (p - origin.TAA.a)) • col3 origin.TM.R := by
  obtain ⟨⟨R, tp⟩, ⟨o, rv⟩⟩ := origin
  obtain ⟨a, b, c, d, e, f, g, h, i⟩ := R
  have F := facts_of_isRot hR
  obtain ⟨ox, oy, oz⟩ := o
  obtain ⟨px, py, pz⟩ := p
  -- the plane normal ŷ × x̂ is −ẑ (of squared length 1 by `F.h9`)
  have hx : e * g - h * d = -c := by linear_combination F.cc
  have hy : h * a - b * g = -f := by linear_combination F.cf
  have hz : b * d - e * a = -i := by linear_combination F.ci
  simp only [mirror, planeFromThreePoints, add_sub_cancel_left, col1, col2, col3]
  simp only [V3.add_def, V3.sub_def, ← V3.smul_eq, V3.add, V3.sub, V3.smul, V3.cross, V3.dot, V3.mk.injEq]
  simp only [hx, hy, hz, neg_mul_neg, F.h9]
  -- the code's signed distance of p from the plane is ẑ·(p − o), because ẑ ⊥ ŷ
  obtain ⟨k, hk⟩ : ∃ k, - -c * px - -f * py - -i * pz + (-c * (ox + b) + -f * (oy + e) + -i * (oz + h)) = k := ⟨_, rfl⟩
  have hk' : c * (px - ox) + f * (py - oy) + i * (pz - oz) = k := by linear_combination hk + F.h6
  rw [hk, hk']
  refine ⟨?_, ?_, ?_⟩ <;> ring

/-- **mirror negates exactly the local z coordinate** (frame anywhere in space, any orientation) -/
theorem mirror_reflects (origin : Tm ℝ) (hR : IsRot origin.TM.R) (p : V3 ℝ) :
    localCoords origin.TM.R origin.TAA.a (mirror origin p) =
      ⟨(localCoords origin.TM.R origin.TAA.a p).x, (localCoords origin.TM.R origin.TAA.a p).y,
        -(localCoords origin.TM.R origin.TAA.a p).z⟩ := by
  rw [mirror_eq origin hR p]
  unfold localCoords
  -- ẑ·(p − o) is the local z coordinate of p, and Rᵀẑ = e₃: in local coordinates q the image is q − 2 q.z e₃
  rw [show V3.dot (col3 origin.TM.R) (p - origin.TAA.a) = (origin.TM.R.T.mulVec (p - origin.TAA.a)).z from rfl,
    sub_right_comm, mulVec_sub, mulVec_smul, T_mulVec_col3 hR]
  generalize origin.TM.R.T.mulVec (p - origin.TAA.a) = q
  refine V3.ext ?_ ?_ ?_
  · show q.x - 2 * q.z * 0 = q.x
    ring
  · show q.y - 2 * q.z * 0 = q.y
    ring
  · show q.z - 2 * q.z * 1 = -q.z
    ring

theorem localCoords_inj (R : M3 ℝ) (hR : IsRot R) (o u v : V3 ℝ)
    (h : localCoords R o u = localCoords R o v) : u = v := by
  have h2 := congrArg R.mulVec h
  simp only [localCoords, mulVec_T_mulVec hR] at h2
  exact sub_left_injective h2

/-- **mirror is an involution** -/
theorem mirror_involution (origin : Tm ℝ) (hR : IsRot origin.TM.R) (p : V3 ℝ) :
    mirror origin (mirror origin p) = p := by
  apply localCoords_inj origin.TM.R hR origin.TAA.a
  rw [mirror_reflects origin hR, mirror_reflects origin hR]
  simp only [neg_neg]

/-! ### interpolated midpoint -/

/-- the midpoint has the mean position -/
theorem interpMid_pos (a b : V6 ℝ) : (tmInterpMidpoint a b).TAA.a = V3.sdiv (a.a + b.a) 2 := rfl

/-- **geodesic half-way**: the relative rotation from R1 to the midpoint, applied twice, is the
    relative rotation from R1 to R2; stated for the relative rotation Re = R2·R1ᵀ in the generic
    branch of the logarithm with half-angle outside the cut-off band. -/
theorem interpMid_geodesic (Re : M3 ℝ) (hR : IsRot Re) (hlo : -1 < (Re.trace - 1) / 2)
    (hhi : (Re.trace - 1) / 2 < 1) (hθ : (2e-6 : ℝ) ≤ Real.arccos ((Re.trace - 1) / 2)) :
    let H := matrixExp3 (hat (vee (M3.sdiv (matrixLog3 Re) 2)))
    H * H = Re := by
  obtain ⟨u, hA⟩ := log3_axisAngle Re hR
  generalize Real.arccos ((Re.trace - 1) / 2) = θ at hθ hA
  intro H
  have hθ2 : (1e-6 : ℝ) ≤ θ / 2 :=
    (le_div_iff₀' (zero_lt_two' ℝ)).mpr ((by norm_num : (2 : ℝ) * 1e-6 = 2e-6).trans_le hθ)
  -- half of the logarithm [θ u] is [(θ/2) u], so H is the rotation about u by half the angle
  have hH : H = rod u (Real.sin (θ / 2)) (Real.cos (θ / 2)) := by
    show matrixExp3 (hat (vee (M3.sdiv (matrixLog3 Re) 2))) = _
    rw [hA.log, ← hat_sdiv, vee_hat, V3.sdiv_eq_smul, smul_smul, one_div_mul_eq_div,
      exp3_axis u hA.unit _ (Or.inr hθ2)]
  have hRe : Re = rod u (2 * Real.sin (θ / 2) * Real.cos (θ / 2)) (Real.cos (θ / 2) ^ 2 - Real.sin (θ / 2) ^ 2) := by
    rw [← Real.sin_two_mul, ← Real.cos_two_mul', mul_div_cancel₀ θ two_ne_zero]
    exact hA.rod
  rw [hH, rod_add _ _ _ _ _ hA.unit, hRe]
  congr 1 <;> ring

/-! ### lookAt -/

/-- lookAt keeps the position of the first pose -/
theorem lookAt_keeps_pos (va vb : V3 ℝ) : (lookAt va vb).TM.p = va := rfl

theorem frame_isRot (x z : V3 ℝ) (hz : norm3 z = 1) (hx : norm3 x = 1) (hxz : V3.dot x z = 0) :
    IsRot ⟨x.x, (V3.cross z x).x, z.x, x.y, (V3.cross z x).y, z.y, x.z, (V3.cross z x).z, z.z⟩ := by
  -- stated with `norm3` (short to state and to match at the call); the certificates below want the polynomial form
  have huz := unit_of_norm3 hz
  have hux := unit_of_norm3 hx
  obtain ⟨zx, zy, zz⟩ := z
  obtain ⟨xx, xy, xz⟩ := x
  replace hxz : xx * zx + xy * zy + xz * zz = 0 := hxz
  -- Lagrange's identity: |z × x|² = |z|²|x|² − (z·x)² = 1
  have hy : (zy * xz - zz * xy) ^ 2 + (zz * xx - zx * xz) ^ 2 + (zx * xy - zy * xx) ^ 2 = 1 := by
    linear_combination (xx^2 + xy^2 + xz^2) * huz + hux + (-xx*zx - xy*zy - xz*zz) * hxz
  constructor
  · -- the entries of MᵀM are the dot products of the columns x, z × x, z
    simp only [M3.T, M3.mul_def, M3.mul, M3.one, V3.cross, ofNat_real_zero, ofNat_real_one, M3.mk.injEq]
    refine ⟨?_, ?_, ?_, ?_, ?_, ?_, ?_, ?_, ?_⟩
    · linear_combination hux
    · ring
    · linear_combination hxz
    · ring
    · linear_combination hy
    · ring
    · linear_combination hxz
    · ring
    · linear_combination huz
  · -- det M = x · ((z × x) × z) = |z × x|²
    simp only [M3.det, V3.cross]
    linear_combination hy

/-- **lookAt is a proper rotation whose local z is the unit vector towards the target**, whenever the
    target is neither at the viewer nor straight above / below it (where `up × z = 0`; the code's
    `except` branch is meant for that set) -/
theorem lookAt_proper (va vb : V3 ℝ) (hz : 0 < norm3 (vb - va))
    (hx : 0 < norm3 (V3.cross ⟨0, 0, 1⟩ (MR.normalize (vb - va)))) :
    IsRot (lookAtT va vb).R ∧ col3 (lookAtT va vb).R = MR.normalize (vb - va) := by
  have huz := unit_of_pos (vb - va) hz
  have hux := unit_of_pos _ hx
  have hxz : V3.dot (MR.normalize (V3.cross ⟨0, 0, 1⟩ (MR.normalize (vb - va)))) (MR.normalize (vb - va)) = 0 := by
    have h0 : V3.dot (V3.cross ⟨0, 0, 1⟩ (MR.normalize (vb - va))) (MR.normalize (vb - va)) = 0 := by
      simp only [V3.dot, V3.cross]; ring
    unfold MR.normalize at h0 ⊢
    rw [V3.sdiv_eq_smul (V3.cross _ _), V3.dot_smul_left, h0, mul_zero]
  refine ⟨?_, rfl⟩
  have := frame_isRot _ _ (norm3_of_unit huz) (norm3_of_unit hux) hxz
  simpa only [lookAtT, MR.normalize, ofNat_real_zero, ofNat_real_one] using this

theorem distance_eq_norm3 (p q : V3 ℝ) : distance p q = norm3 (q - p) := rfl

/-- `distance` is the norm of the difference, hence symmetric, zero exactly on equal positions, and
    satisfies the triangle inequality -/
theorem distance_metric (p q r : V3 ℝ) :
    distance p q = distance q p ∧ 0 ≤ distance p q ∧ (distance p q = 0 ↔ p = q) ∧
    distance p r ≤ distance p q + distance q r := by
  simp only [distance_eq_norm3]
  refine ⟨?_, norm3_nonneg _, ?_, ?_⟩
  · rw [← neg_sub, norm3_neg]
  · rw [norm3_eq_zero, sub_eq_zero, eq_comm]
  · rw [← sub_add_sub_cancel r q p, add_comm (norm3 _)]
    exact norm3_add_le _ _

/-- arc distance is the six-norm of the relative pose (by definition of the model, as in the code) -/
theorem arcDistance_is_norm (a b : V6 ℝ) : arcDistance a b = norm6 (globalToLocalTAA a b) := rfl

/-! ### gap closing and straight paths -/

theorem norm6_sq (v : V6 ℝ) : norm6 v ^ 2 =
    v.a.x ^ 2 + v.a.y ^ 2 + v.a.z ^ 2 + v.b.x ^ 2 + v.b.y ^ 2 + v.b.z ^ 2 := by
  simp only [sq]
  exact Real.mul_self_sqrt (add_nonneg (add_nonneg (add_nonneg (add_nonneg (add_nonneg (mul_self_nonneg _)
    (mul_self_nonneg _)) (mul_self_nonneg _)) (mul_self_nonneg _)) (mul_self_nonneg _)) (mul_self_nonneg _))

theorem norm6_smul (t : ℝ) (v : V6 ℝ) : norm6 (V6.smul t v) = |t| * norm6 v := by
  show Real.sqrt _ = |t| * Real.sqrt _
  rw [← Real.sqrt_sq_eq_abs, ← Real.sqrt_mul (sq_nonneg t)]
  congr 1
  -- each (t c)(t c) is (t t)(c c), and t t comes out of the sum
  simp only [V6.smul, V3.smul, sq, mul_mul_mul_comm t _ t, ← mul_add]

theorem norm6_zero : norm6 (0 : V6 ℝ) = 0 := by
  have h := norm6_smul 0 0
  rwa [abs_zero, zero_mul, V6.smul_eq, zero_smul] at h

/-- the step `closeLinearGap` and `closeArcGap` take from the origin -/
theorem step_eq_smul (d : V6 ℝ) (δ : ℝ) : V6.smul δ (V6.sdiv d (norm6 d)) = V6.smul (δ / norm6 d) d := by
  rw [V6.sdiv_eq_smul, V6.smul_eq, V6.smul_eq, smul_smul, mul_one_div]

theorem norm6_step (d : V6 ℝ) (δ : ℝ) (hn : norm6 d ≠ 0) : norm6 (V6.smul δ (V6.sdiv d (norm6 d))) = |δ| := by
  have hpos : 0 < norm6 d := lt_of_le_of_ne (Real.sqrt_nonneg _) (Ne.symm hn)
  rw [step_eq_smul, norm6_smul, abs_div, abs_of_pos hpos, div_mul_cancel₀ _ hn]

/-- **closeLinearGap advances by exactly |δ|** in the six-norm, along the straight line to the goal -/
theorem closeLinearGap_advance (o g : V6 ℝ) (δ : ℝ) (isZero : ℝ → Bool) (r : V6 ℝ)
    (hz : ∀ x, isZero x = true ↔ x = 0) (h : closeLinearGap o g δ isZero = some r) :
    norm6 (r - o) = |δ| ∧ ∃ t : ℝ, r - o = V6.smul t (g - o) := by
  unfold closeLinearGap at h
  simp only at h
  split_ifs at h with h0
  have hn : norm6 (g - o) ≠ 0 := fun hh => h0 ((hz _).mpr hh)
  cases h
  rw [add_sub_cancel_left]
  exact ⟨norm6_step _ δ hn, _, step_eq_smul _ δ⟩

/-- **IKPath**: the requested number of poses, first = start, last = goal -/
theorem ikPath_shape (a b : V6 ℝ) (steps : Nat) (hs : 2 ≤ steps) :
    (ikPath a b steps (fun n => (n : ℝ))).length = steps ∧
    (ikPath a b steps (fun n => (n : ℝ))).head? = some a ∧
    (ikPath a b steps (fun n => (n : ℝ))).getLast? = some b := by
  obtain ⟨k, rfl⟩ := Nat.exists_eq_add_of_le' hs
  simp only [ikPath, Nat.add_succ_sub_one]
  refine ⟨?_, ?_, List.getLast?_concat⟩
  · simp only [List.length_append, List.length_map, List.length_range]; rfl
  · -- the first of the k + 1 interpolated poses is a + 0 • δ
    rw [List.range_succ_eq_map, List.map_cons, List.cons_append, List.head?_cons, Nat.cast_zero, V6.smul_eq, zero_smul,
      add_zero]

/-- …and evenly spaced: consecutive six-vectors differ by the same increment (goal − start)/(steps − 1) -/
theorem ikPath_even (a b : V6 ℝ) (steps : Nat) (hs : 2 ≤ steps) (i : Nat) (hi : i + 1 < steps) :
    let δ := V6.sdiv (b - a) ((steps - 1 : Nat) : ℝ)
    let pt := fun (j : Nat) => if j < steps - 1 then a + V6.smul (j : ℝ) δ else b
    pt (i + 1) - pt i = δ := by
  intro δ pt
  simp only [pt, V6.smul_eq]
  rw [if_pos (Nat.lt_sub_of_add_lt hi)]
  have key : ((i : ℝ) + 1) • δ - (i : ℝ) • δ = δ := by rw [← sub_smul, add_sub_cancel_left, one_smul]
  split_ifs with h1
  · rw [add_sub_add_left_eq_sub, Nat.cast_succ, key]
  · -- the last increment: i + 2 ≤ steps ≤ i + 2, and (steps − 1)·δ = b − a
    obtain rfl : steps = i + 2 := by omega
    have hδ : ((i : ℝ) + 1) • δ = b - a := by
      show ((i : ℝ) + 1) • V6.sdiv (b - a) ((i + 1 : ℕ) : ℝ) = _
      rw [Nat.cast_succ, V6.sdiv_eq_smul, smul_smul, mul_one_div_cancel (Nat.cast_add_one_ne_zero i), one_smul]
    rw [← sub_sub, ← hδ, key]

/-! ### samplers and angle wrapping -/

theorem sphere_unit (t p : ℝ) :
    (Real.cos t * Real.sin p) ^ 2 + (Real.sin t * Real.sin p) ^ 2 + Real.cos p ^ 2 = 1 := by
  have h1 := Real.sin_sq_add_cos_sq t
  have h2 := Real.sin_sq_add_cos_sq p
  linear_combination (Real.sin p) ^ 2 * h1 + h2

theorem fibo_unit (i n : ℝ) : (fiboPoint i n).x ^ 2 + (fiboPoint i n).y ^ 2 + (fiboPoint i n).z ^ 2 = 1 :=
  sphere_unit _ _

theorem unitSphere_unit (a e : ℝ) :
    (unitSpherePoint a e).x ^ 2 + (unitSpherePoint a e).y ^ 2 + (unitSpherePoint a e).z ^ 2 = 1 :=
  sphere_unit _ _

/-- **angle wrapping preserves the angle modulo 2π** -/
theorem angleMod_mod_2pi (r : ℝ) : ∃ k : ℤ, angleModScalar r = r - 2 * Real.pi * k := by
  unfold angleModScalar
  split_ifs
  · refine ⟨⌊r / (2 * Real.pi)⌋, ?_⟩
    rfl
  · exact ⟨0, by rw [Int.cast_zero, mul_zero, sub_zero]⟩

theorem pymod_range (r m : ℝ) (hm : 0 < m) : 0 ≤ pymod r m ∧ pymod r m < m := by
  have e : pymod r m = m * Int.fract (r / m) := by
    show r - m * (⌊r / m⌋ : ℝ) = _
    rw [Int.fract, mul_sub, mul_div_cancel₀ r hm.ne']
  rw [e]
  exact ⟨mul_nonneg hm.le (Int.fract_nonneg _), mul_lt_of_lt_one_right hm (Int.fract_lt_one _)⟩

/-- **angle wrapping lands in [−2π, 2π]** -/
theorem angleMod_range (r : ℝ) : |angleModScalar r| ≤ 2 * Real.pi := by
  unfold angleModScalar
  simp only [sabs_real', pi_real]
  split_ifs with h
  · obtain ⟨h0, h1⟩ := pymod_range r (2 * Real.pi) (by positivity)
    rw [abs_of_nonneg h0]; exact h1.le
  · exact not_lt.mp h

/-- …and wrapping twice is wrapping once -/
theorem angleMod_idem (r : ℝ) : angleModScalar (angleModScalar r) = angleModScalar r := by
  have h := angleMod_range r
  generalize angleModScalar r = s at h
  unfold angleModScalar
  simp only [sabs_real', pi_real]
  rw [if_neg (not_lt.mpr h)]

end BR.C18
