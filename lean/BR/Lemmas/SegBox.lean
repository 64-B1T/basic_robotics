/-
  Helper lemmas for C15.  A centred segment {m + s L | s ∈ [-1,1]} meets a centred box {|x_k| ≤ e_k}
  iff one parameter s meets finitely many conditions |m_i + s L_i| ≤ e_i (one per axis, and
  |0 + s * 1| ≤ 1 for the parameter range).  On a line such conditions can be met together iff any
  two of them can (Helly), and for two of them that is the cross test of the separating-axis method.
-/
import Mathlib.Tactic.Ring
import Mathlib.Algebra.Order.Field.Basic

namespace BR.SegBox

variable {K : Type*} [Field K] [LinearOrder K] [IsStrictOrderedRing K]

/-- `H` says that any two of the balls meet -/
theorem helly_balls {ι : Type*} {t : List ι} (ht : t ≠ []) (c r : ι → K)
    (H : ∀ i ∈ t, ∀ j ∈ t, c i - c j ≤ r i + r j) : ∃ s, ∀ i ∈ t, |s - c i| ≤ r i := by
  -- the largest lower end lies in every ball
  obtain ⟨j, hj, hmax⟩ : ∃ j ∈ t, ∀ i ∈ t, c i - r i ≤ c j - r j :=
    ⟨t.maxOn (fun i => c i - r i) ht, List.maxOn_mem,
      fun _ hi => List.le_apply_maxOn_of_mem (f := fun i => c i - r i) hi⟩
  refine ⟨c j - r j, fun i hi => abs_le.mpr ⟨?_, ?_⟩⟩
  · exact neg_le_sub_iff_le_add.mpr (sub_le_iff_le_add.mp (hmax i hi))
  · rw [sub_right_comm, sub_le_iff_le_add']; exact H j hj i hi

theorem cross_le {ma La ea mb Lb eb s : K} (ha : |ma + s * La| ≤ ea) (hb : |mb + s * Lb| ≤ eb) :
    |ma * Lb - mb * La| ≤ ea * |Lb| + eb * |La| := by
  have : ma * Lb - mb * La = (ma + s * La) * Lb - (mb + s * Lb) * La := by ring
  rw [this]
  refine (abs_sub _ _).trans ?_
  rw [abs_mul, abs_mul]
  exact add_le_add (mul_le_mul_of_nonneg_right ha (abs_nonneg Lb))
    (mul_le_mul_of_nonneg_right hb (abs_nonneg La))

theorem slab_iff_ball {m L e s : K} (hL : L ≠ 0) : |m + s * L| ≤ e ↔ |s - -m / L| ≤ e / |L| := by
  rw [le_div_iff₀ (abs_pos.mpr hL), ← abs_mul, sub_mul, div_mul_cancel₀ _ hL, sub_neg_eq_add, add_comm]

/-- the cross test divided by `|L1| * |L2|`: the two balls of `slab_iff_ball` meet (`H` of `helly_balls`) -/
theorem centres_le {m1 L1 e1 m2 L2 e2 : K} (h1 : L1 ≠ 0) (h2 : L2 ≠ 0)
    (h : |m1 * L2 - m2 * L1| ≤ e1 * |L2| + e2 * |L1|) :
    -m1 / L1 - -m2 / L2 ≤ e1 / |L1| + e2 / |L2| := by
  have p1 := abs_pos.mpr h1
  have p2 := abs_pos.mpr h2
  rw [div_sub_div _ _ h1 h2, div_add_div _ _ p1.ne' p2.ne']
  refine (le_abs_self _).trans ?_
  rw [abs_div, abs_mul]
  refine div_le_div_of_nonneg_right ?_ (mul_pos p1 p2).le
  have : -m1 * L2 - L1 * -m2 = -(m1 * L2 - m2 * L1) := by ring
  rw [this, abs_neg, mul_comm |L1|]
  exact h

/-- **Weighted Helly on a line.** Finitely many slab conditions `|m i + s L i| ≤ e i` on one parameter
    `s`, not all with `L i = 0`, can be met together iff any two of them can, and for two that is the
    cross test.  With the slab `|0 + s * 1| ≤ 1` among them this is the separating-axis theorem for a
    segment against a box in any dimension. -/
theorem helly_slabs {ι : Type*} (t : List ι) (m L e : ι → K) (hL : ∃ i ∈ t, L i ≠ 0)
    (he : ∀ i ∈ t, 0 ≤ e i) :
    (∃ s, ∀ i ∈ t, |m i + s * L i| ≤ e i) ↔
      t.Pairwise fun i j => |m i * L j - m j * L i| ≤ e i * |L j| + e j * |L i| := by
  constructor
  · rintro ⟨s, hs⟩
    exact List.pairwise_of_forall_mem_list fun i hi j hj => cross_le (hs i hi) (hs j hj)
  · intro hp
    -- the cross test is symmetric, and holds of a slab with itself since `0 ≤ e i`
    have H : ∀ i ∈ t, ∀ j ∈ t, |m i * L j - m j * L i| ≤ e i * |L j| + e j * |L i| :=
      fun i hi j hj => List.Pairwise.forall_of_forall_of_flip
        (fun i hi => by
          rw [sub_self, abs_zero]
          exact add_nonneg (mul_nonneg (he i hi) (abs_nonneg _)) (mul_nonneg (he i hi) (abs_nonneg _)))
        hp (hp.imp fun h => by rw [abs_sub_comm, add_comm] at h; exact h) hi hj
    obtain ⟨k, hk, hLk⟩ := hL
    obtain ⟨s, hs⟩ := helly_balls (t := t.filter fun i => L i ≠ 0)
      (List.ne_nil_of_mem (List.mem_filter.mpr ⟨hk, decide_eq_true hLk⟩))
      (fun i => -m i / L i) (fun i => e i / |L i|) (fun i hi j hj => by
        rw [List.mem_filter, decide_eq_true_eq] at hi hj
        exact centres_le hi.2 hj.2 (H i hi.1 j hj.1))
    refine ⟨s, fun i hi => ?_⟩
    by_cases hLi : L i = 0
    · -- a slab with `L i = 0` does not depend on `s`; compare it with slab `k`
      have := H i hi k hk
      rw [hLi, mul_zero, sub_zero, abs_zero, mul_zero, add_zero, abs_mul] at this
      rw [hLi, mul_zero, add_zero]
      exact le_of_mul_le_mul_right this (abs_pos.mpr hLk)
    · exact (slab_iff_ball hLi).mpr (hs i (List.mem_filter.mpr ⟨hi, decide_eq_true hLi⟩))

/-- **Separating-axis theorem** for a segment against an axis-aligned box, centred form. -/
theorem sat_iff {m1 m2 m3 L1 L2 L3 e1 e2 e3 : K} (he1 : 0 ≤ e1) (he2 : 0 ≤ e2) (he3 : 0 ≤ e3) :
    (|m1| ≤ e1 + |L1| ∧ |m2| ≤ e2 + |L2| ∧ |m3| ≤ e3 + |L3| ∧
      |m2 * L3 - m3 * L2| ≤ e2 * |L3| + e3 * |L2| ∧
      |m1 * L3 - m3 * L1| ≤ e1 * |L3| + e3 * |L1| ∧
      |m1 * L2 - m2 * L1| ≤ e1 * |L2| + e2 * |L1|) ↔
    ∃ s : K, (-1 ≤ s ∧ s ≤ 1) ∧ |m1 + s * L1| ≤ e1 ∧ |m2 + s * L2| ≤ e2 ∧ |m3 + s * L3| ≤ e3 := by
  -- the three axes and the parameter range `|0 + s * 1| ≤ 1` are four slabs
  have h := helly_slabs [(m1, L1, e1), (m2, L2, e2), (m3, L3, e3), (0, 1, 1)] (·.1) (·.2.1) (·.2.2)
    ⟨(0, 1, 1), by simp only [List.mem_cons, or_true, true_or], one_ne_zero⟩
    (by simp only [List.forall_mem_cons, List.not_mem_nil, false_imp_iff, implies_true, he1, he2, he3, zero_le_one,
      and_self])
  simp only [List.pairwise_cons, List.forall_mem_cons, List.not_mem_nil, false_imp_iff, implies_true,
    and_true, List.Pairwise.nil, mul_one, zero_mul, sub_zero, abs_one, one_mul, zero_add] at h
  -- `h` lists the pairwise conditions in the order of `List.Pairwise` on the four slabs
  constructor
  · rintro ⟨a1, a2, a3, c23, c13, c12⟩
    obtain ⟨s, i1, i2, i3, hs⟩ := h.mpr ⟨⟨c12, c13, a1⟩, ⟨c23, a2⟩, a3⟩
    exact ⟨s, abs_le.mp hs, i1, i2, i3⟩
  · rintro ⟨s, hs, i1, i2, i3⟩
    obtain ⟨⟨c12, c13, a1⟩, ⟨c23, a2⟩, a3⟩ := h.mp ⟨s, i1, i2, i3, abs_le.mpr hs⟩
    exact ⟨a1, a2, a3, c23, c13, c12⟩

/-- `|h|` is the larger of `h` and `-h` -/
theorem abs_sub_le_abs_iff (c h x : K) :
    |x - c| ≤ |h| ↔ min (c - h) (c + h) ≤ x ∧ x ≤ max (c - h) (c + h) := by
  rw [abs_sub_le_iff, le_abs, le_abs, min_le_iff, le_max_iff, sub_le_iff_le_add', sub_le_iff_le_add',
    ← sub_eq_add_neg, sub_le_comm (c := h), sub_le_comm (c := -h), sub_neg_eq_add, and_comm,
    or_comm (a := x ≤ c + h)]

/-- the right side is spelt as the traced code computes centre and half-extent -/
theorem slab_iff (a b x : K) :
    (min a b ≤ x ∧ x ≤ max a b) ↔ |x - (b + a) / 2| ≤ |b - (b + a) / 2| := by
  rw [abs_sub_le_abs_iff, add_sub_cancel, show (b + a) / 2 - (b - (b + a) / 2) = a by ring]

end BR.SegBox
