/-
  SO(3) in coordinates: proper rotations are closed under product and transpose, their transpose is a two-sided
  inverse (through the adjugate), the quadratic relations among their entries that the polynomial certificates use,
  and the Euclidean norm the kernels compute.
-/
import BR.Lemmas.Alg

namespace BR.Rot
open BR.MR

/-- proper rotation: orthonormal with determinant +1 -/
def IsRot (R : M3 ℝ) : Prop := R.T * R = M3.one ∧ R.det = 1

/-- for an orthonormal matrix of determinant 1 the transpose is the adjugate: Rᵀ = Rᵀ·(R·adj R) = (RᵀR)·adj R -/
theorem T_eq_adj {R : M3 ℝ} (h : R.T * R = M3.one) (hd : R.det = 1) : R.T = adj R := by
  have e : R.T * (R * adj R) = R.T := by rw [mul_adj, hd, one_smul, mul_one]
  rw [← e, ← mul_assoc, h, M3.one_eq, one_mul]

theorem mul_T_of_T_mul {R : M3 ℝ} (h : R.T * R = M3.one) (hd : R.det = 1) : R * R.T = M3.one := by
  rw [T_eq_adj h hd, mul_adj, hd, one_smul]; rfl

theorem isRot_inv {R : M3 ℝ} (hR : IsRot R) : R * R.T = 1 ∧ R.T * R = 1 :=
  ⟨mul_T_of_T_mul hR.1 hR.2, hR.1⟩

theorem mulVec_T_mulVec {R : M3 ℝ} (hR : IsRot R) (w : V3 ℝ) : R.mulVec (R.T.mulVec w) = w := by
  rw [← mulVec_mul, (isRot_inv hR).1, one_mulVec]

theorem isRot_one : IsRot M3.one := ⟨by rw [M3.one_eq, T_one, mul_one], det_one⟩

theorem isRot_T {R : M3 ℝ} (h : IsRot R) : IsRot R.T :=
  ⟨by rw [T_T]; exact mul_T_of_T_mul h.1 h.2, by rw [det_T]; exact h.2⟩

theorem isRot_mul {A B : M3 ℝ} (hA : IsRot A) (hB : IsRot B) : IsRot (A * B) := by
  constructor
  · rw [T_mul, mul_assoc, ← mul_assoc A.T, hA.1, M3.one_eq, one_mul]; exact hB.1
  · rw [det_mul, hA.2, hB.2, mul_one]

/-- the quadratic relations satisfied by the entries of a rotation matrix, as the hypotheses that the
    `linear_combination` certificates refer to: `hN` is entry N (row-major, the lower triangle left out) of
    RᵀR = I, `cx` the entry x of Rᵀ = adj R -/
structure Facts (a b c d e f g h i : ℝ) : Prop where
  h1 : a * a + d * d + g * g = 1
  h2 : a * b + d * e + g * h = 0
  h3 : a * c + d * f + g * i = 0
  h5 : b * b + e * e + h * h = 1
  h6 : b * c + e * f + h * i = 0
  h9 : c * c + f * f + i * i = 1
  ca : a = e * i - f * h
  cb : b = f * g - d * i
  cc : c = d * h - e * g
  cd : d = c * h - b * i
  ce : e = a * i - c * g
  cf : f = b * g - a * h
  cg : g = b * f - c * e
  ch : h = c * d - a * f
  ci : i = a * e - b * d

theorem facts_of_isRot {a b c d e f g h i : ℝ} (hR : IsRot ⟨a, b, c, d, e, f, g, h, i⟩) :
    Facts a b c d e f g h i := by
  have ho := hR.1
  have hc := T_eq_adj hR.1 hR.2
  revert ho hc
  unfold adj
  m3simp
  rintro ⟨h1, h2, h3, -, h5, h6, -, -, h9⟩ ⟨ca, cd, cg, cb, ce, ch, cc, cf, ci⟩
  exact ⟨h1, h2, h3, h5, h6, h9, ca, cb, cc, cd, ce, cf, cg, ch, ci⟩

theorem abs_le_one_of_unit {x y z : ℝ} (h : x * x + y * y + z * z = 1) : |x| ≤ 1 :=
  abs_le_one_iff_mul_self_le_one.mpr (by linarith [mul_self_nonneg y, mul_self_nonneg z])

/-- the diagonal entries of a rotation lie in [−1, 1] -/
theorem Facts.diag {a b c d e f g h i : ℝ} (F : Facts a b c d e f g h i) : |a| ≤ 1 ∧ |e| ≤ 1 ∧ |i| ≤ 1 :=
  ⟨abs_le_one_of_unit F.h1, abs_le_one_of_unit (x := e) (y := b) (z := h) (by linear_combination F.h5),
    abs_le_one_of_unit (x := i) (y := c) (z := f) (by linear_combination F.h9)⟩

/-- `[R w] = R [w] Rᵀ` on SO(3) -/
theorem _root_.BR.hat_conj (R : M3 ℝ) (hR : IsRot R) (w : V3 ℝ) : hat (R.mulVec w) = R * hat w * R.T := by
  obtain ⟨h1, -⟩ := isRot_inv hR
  have hc := hat_cofactor R w
  rw [hR.2, M3.smul_eq, one_smul] at hc
  calc hat (R.mulVec w) = (R * R.T) * hat (R.mulVec w) * (R * R.T) := by rw [h1, one_mul, mul_one]
    _ = R * (R.T * hat (R.mulVec w) * R) * R.T := by noncomm_ring
    _ = R * hat w * R.T := by rw [hc]

/-! ### the norm the kernels compute -/

theorem norm3_def (w : V3 ℝ) : norm3 w = Real.sqrt (V3.dot w w) := rfl

theorem norm3_nonneg (w : V3 ℝ) : 0 ≤ norm3 w := Real.sqrt_nonneg _

theorem norm3_sq (w : V3 ℝ) : norm3 w ^ 2 = w.x ^ 2 + w.y ^ 2 + w.z ^ 2 := by
  rw [norm3_def, Real.sq_sqrt (V3.dot_self_nonneg w), V3.dot]; ring

theorem norm3_eq_of_sq (w : V3 ℝ) (θ : ℝ) (hθ : 0 ≤ θ) (h : w.x ^ 2 + w.y ^ 2 + w.z ^ 2 = θ ^ 2) :
    norm3 w = θ := by
  rw [← Real.sqrt_sq hθ, ← h, ← norm3_sq, Real.sqrt_sq (norm3_nonneg w)]

theorem norm3_zero : norm3 (0 : V3 ℝ) = 0 := by
  rw [← V3.mk_zero]; exact norm3_eq_of_sq _ 0 le_rfl (by norm_num)

theorem norm3_smul (k : ℝ) (w : V3 ℝ) : norm3 (k • w) = |k| * norm3 w := by
  apply norm3_eq_of_sq _ _ (mul_nonneg (abs_nonneg k) (norm3_nonneg w))
  rw [mul_pow, sq_abs, norm3_sq]
  simp only [← V3.smul_eq, V3.smul]; ring

theorem norm3_neg (v : V3 ℝ) : norm3 (-v) = norm3 v := by
  rw [← neg_one_smul ℝ v, norm3_smul, abs_neg, abs_one, one_mul]

theorem normalize_neg (v : V3 ℝ) : MR.normalize (-v) = -MR.normalize v := by
  unfold MR.normalize; rw [norm3_neg, V3.sdiv_neg]

/-- orthogonal matrices (RᵀR = 1, either determinant) preserve the norm the kernels compute -/
theorem norm3_orth (R : M3 ℝ) (h : R.T * R = M3.one) (w : V3 ℝ) : norm3 (R.mulVec w) = norm3 w := by
  rw [norm3_def, norm3_def, ← V3.dot_T_mulVec, ← mulVec_mul, h, M3.one_eq, one_mulVec]

theorem _root_.BR.norm3_rot (R : M3 ℝ) (hR : IsRot R) (w : V3 ℝ) : norm3 (R.mulVec w) = norm3 w :=
  norm3_orth R hR.1 w

/-! `norm3` is a norm on `V3 ℝ` -/

theorem norm3_eq_zero {v : V3 ℝ} : norm3 v = 0 ↔ v = 0 := by
  constructor
  · intro h
    have hxy := add_nonneg (mul_self_nonneg v.x) (mul_self_nonneg v.y)
    have hz := mul_self_nonneg v.z
    have h0 : v.x * v.x + v.y * v.y + v.z * v.z = 0 := le_antisymm (Real.sqrt_eq_zero'.mp h) (add_nonneg hxy hz)
    obtain ⟨h1, h2⟩ := (add_eq_zero_iff_of_nonneg hxy hz).mp h0
    obtain ⟨hx, hy⟩ := mul_self_add_mul_self_eq_zero.mp h1
    rw [← V3.mk_zero]
    exact V3.ext hx hy (mul_self_eq_zero.mp h2)
  · rintro rfl
    exact norm3_zero

/-- Cauchy–Schwarz, from Lagrange's identity |u|²|v|² − (u·v)² = |u × v|² -/
theorem dot_le_norm3_mul (u v : V3 ℝ) : V3.dot u v ≤ norm3 u * norm3 v := by
  have hL : V3.dot u u * V3.dot v v - V3.dot u v ^ 2 = V3.dot (V3.cross u v) (V3.cross u v) := by
    simp only [V3.dot, V3.cross]
    ring
  rw [norm3_def, norm3_def, ← Real.sqrt_mul (V3.dot_self_nonneg u)]
  refine le_trans (le_abs_self _) (Real.abs_le_sqrt (sub_nonneg.mp ?_))
  rw [hL]
  exact V3.dot_self_nonneg _

theorem norm3_add_le (u v : V3 ℝ) : norm3 (u + v) ≤ norm3 u + norm3 v := by
  have hu : norm3 u ^ 2 = V3.dot u u := Real.sq_sqrt (V3.dot_self_nonneg u)
  have hv : norm3 v ^ 2 = V3.dot v v := Real.sq_sqrt (V3.dot_self_nonneg v)
  rw [norm3_def (u + v), Real.sqrt_le_iff]
  refine ⟨add_nonneg (norm3_nonneg u) (norm3_nonneg v), ?_⟩
  rw [add_sq, hu, hv, V3.dot_add_left, V3.dot_add_right, V3.dot_add_right, V3.dot_comm v u]
  linarith [dot_le_norm3_mul u v]

/-! ### unit vectors: `norm3 u = 1` against the polynomial form `u.x ^ 2 + u.y ^ 2 + u.z ^ 2 - 1 = 0` -/

theorem unit_of_norm3 {u : V3 ℝ} (h : norm3 u = 1) : u.x ^ 2 + u.y ^ 2 + u.z ^ 2 - 1 = 0 := by
  rw [← norm3_sq, h]; ring

theorem norm3_of_unit {u : V3 ℝ} (h : u.x ^ 2 + u.y ^ 2 + u.z ^ 2 - 1 = 0) : norm3 u = 1 :=
  norm3_eq_of_sq u 1 zero_le_one ((sub_eq_zero.mp h).trans (one_pow 2).symm)

theorem norm3_smul_unit {u : V3 ℝ} (hu : norm3 u = 1) (θ : ℝ) : norm3 (θ • u) = |θ| := by
  rw [norm3_smul, hu, mul_one]

/-- w/|w| is a unit vector -/
theorem unit_of_pos (w : V3 ℝ) (h : 0 < norm3 w) :
    (V3.sdiv w (norm3 w)).x ^ 2 + (V3.sdiv w (norm3 w)).y ^ 2 + (V3.sdiv w (norm3 w)).z ^ 2 - 1 = 0 :=
  unit_of_norm3 (by
    rw [V3.sdiv_eq_smul, norm3_smul, abs_of_pos (one_div_pos.mpr h), one_div_mul_cancel h.ne'])

/-! ### the 1e-6 cut-off (`NearZero`) -/

theorem nearZero_iff (z : ℝ) : nearZero z ↔ |z| < 1e-6 := by
  unfold nearZero; simp only [sabs_real', sci_real]

theorem pos_of_cutoff_le {x : ℝ} (h : (1e-6 : ℝ) ≤ x) : 0 < x := lt_of_lt_of_le (by norm_num) h

theorem not_nearZero_of_le (θ : ℝ) (h : (1e-6 : ℝ) ≤ θ) : ¬ nearZero θ := by
  rw [nearZero_iff, abs_of_pos (pos_of_cutoff_le h)]; exact not_lt.mpr h

theorem nearZero_zero : nearZero (0 : ℝ) := by rw [nearZero_iff]; norm_num

theorem nearZero_norm3_zero : nearZero (norm3 (0 : V3 ℝ)) := by rw [norm3_zero]; exact nearZero_zero

theorem le_of_not_nearZero {x : ℝ} (h0 : 0 ≤ x) (h : ¬ nearZero x) : (1e-6 : ℝ) ≤ x := by
  rw [nearZero_iff, abs_of_nonneg h0] at h; exact not_lt.mp h

theorem pos_of_not_nearZero {x : ℝ} (h0 : 0 ≤ x) (h : ¬ nearZero x) : 0 < x :=
  pos_of_cutoff_le (le_of_not_nearZero h0 h)

end BR.Rot
