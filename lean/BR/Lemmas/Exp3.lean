/-
  Rodrigues' formula as a polynomial in K = [u] with K³ = −K, and `MatrixExp3` in closed form on both sides of the
  cut-off.  (The logarithm is in Lemmas/Log3.lean.)
-/
import BR.Lemmas.SO3

namespace BR.Rot
open BR.MR

/-- Rodrigues' formula I + s·[u] + (1-c)·[u]², with `s` and `c` free so that `rod_T`, `rod_add`, `rod_det` are
    polynomial identities; it is instantiated at `sin θ`, `cos θ`.  The model's operations are used so that
    `unfold rod; m3simp` reaches coordinates; `rod_eq` is the same in the algebra's notation. -/
noncomputable def rod (u : V3 ℝ) (s c : ℝ) : M3 ℝ :=
  M3.one + M3.smul s (MR.hat u) + M3.smul (1 - c) (MR.hat u * MR.hat u)

theorem rod_eq (u : V3 ℝ) (s c : ℝ) : rod u s c = 1 + s • hat u + (1 - c) • (hat u * hat u) := rfl

/-! ### polynomials in K = [ω] with K³ = −K  (ω a unit vector, or 0)

  `rod` (the rotation block of the exponentials), the matrix `Gmat` in front of the translation in `MatrixExp6`
  (Lemmas/SE3.lean) and its counterpart in `MatrixLog6` (Props/C01.lean) are such polynomials; their products,
  transposes and conjugates are computed on the three coefficients. -/

noncomputable def kpoly (K : M3 ℝ) (a b c : ℝ) : M3 ℝ := a • (1 : M3 ℝ) + b • K + c • (K * K)

theorem rod_eq_kpoly (u : V3 ℝ) (s c : ℝ) : rod u s c = kpoly (hat u) 1 s (1 - c) := by
  rw [rod_eq, kpoly, one_smul]

theorem kpoly_one (K : M3 ℝ) : kpoly K 1 0 0 = 1 := by
  simp only [kpoly, one_smul, zero_smul, add_zero]

theorem kpoly_zero (K : M3 ℝ) : kpoly K 0 0 0 = 0 := by
  simp only [kpoly, zero_smul, add_zero]

theorem kpoly_K (K : M3 ℝ) : kpoly K 0 1 0 = K := by
  simp only [kpoly, zero_smul, one_smul, zero_add, add_zero]

theorem kpoly_add (K : M3 ℝ) (a b c a' b' c' : ℝ) :
    kpoly K a b c + kpoly K a' b' c' = kpoly K (a + a') (b + b') (c + c') := by
  unfold kpoly; rw [add_smul, add_smul, add_smul]; abel

theorem kpoly_neg (K : M3 ℝ) (a b c : ℝ) : -kpoly K a b c = kpoly K (-a) (-b) (-c) := by
  unfold kpoly; rw [neg_add, neg_add, neg_smul, neg_smul, neg_smul]

theorem kpoly_neg_arg (K : M3 ℝ) (a b c : ℝ) : kpoly (-K) a b c = kpoly K a (-b) c := by
  unfold kpoly; rw [neg_mul_neg, smul_neg, neg_smul]

theorem kpoly_T (K : M3 ℝ) (a b c : ℝ) : (kpoly K a b c).T = kpoly K.T a b c := by
  rw [kpoly, T_add, T_add, T_smul, T_smul, T_smul, T_one, T_mul, kpoly]

/-- the product rule: K³ = −K folds degree 3 and 4 back -/
theorem kpoly_mul (K : M3 ℝ) (h3 : K * K * K = -K) (a b c a' b' c' : ℝ) :
    kpoly K a b c * kpoly K a' b' c' =
      kpoly K (a * a') (a * b' + b * a' - b * c' - c * b') (a * c' + b * b' + c * a' - c * c') := by
  unfold kpoly
  -- (x • A) * (y • B) = (x * y) • (A * B) leaves each scalar product as the statement writes it: the rest is additive
  simp only [add_mul, mul_add, smul_mul_smul_comm, one_mul, mul_one, ← mul_assoc, h3, neg_mul, smul_neg, add_smul,
    sub_smul]
  abel

theorem kpoly_mul_comm (K : M3 ℝ) (h3 : K * K * K = -K) (a b c a' b' c' : ℝ) :
    kpoly K a b c * kpoly K a' b' c' = kpoly K a' b' c' * kpoly K a b c := by
  rw [kpoly_mul K h3, kpoly_mul K h3]
  congr 1 <;> ring

theorem K_mul_kpoly (K : M3 ℝ) (h3 : K * K * K = -K) (a b c : ℝ) : K * kpoly K a b c = kpoly K 0 (a - c) b := by
  calc K * kpoly K a b c = kpoly K 0 1 0 * kpoly K a b c := by rw [kpoly_K]
    _ = kpoly K 0 (a - c) b := by
      rw [kpoly_mul K h3]
      congr 1 <;> ring

theorem kpoly_mulVec_axis (w : V3 ℝ) (a b c : ℝ) : (kpoly (hat w) a b c).mulVec w = a • w := by
  simp only [kpoly, add_mulVec, smul_mulVec, mulVec_mul, hat_mulVec_self, mulVec_zero, one_mulVec, smul_zero, add_zero]

theorem kpoly_conj (R Rt K : M3 ℝ) (h1 : R * Rt = 1) (h2 : Rt * R = 1) (a b c : ℝ) :
    kpoly (R * K * Rt) a b c = R * kpoly K a b c * Rt := by
  have e : (R * K * Rt) * (R * K * Rt) = R * (K * K) * Rt := by
    calc (R * K * Rt) * (R * K * Rt) = R * K * (Rt * R) * K * Rt := by simp only [mul_assoc]
      _ = R * (K * K) * Rt := by rw [h2, mul_one, mul_assoc R]
  unfold kpoly
  rw [e]
  simp only [mul_add, add_mul, mul_smul_comm, smul_mul_assoc, mul_one, h1]

theorem rod_T (u : V3 ℝ) (s c : ℝ) : (rod u s c).T = rod u (-s) c := by
  rw [rod_eq_kpoly, rod_eq_kpoly, kpoly_T, hat_T, kpoly_neg_arg]

theorem rod_neg (u : V3 ℝ) (s c : ℝ) : rod (-u) (-s) c = rod u s c := by
  rw [rod_eq_kpoly, rod_eq_kpoly, hat_neg, kpoly_neg_arg, neg_neg]

theorem rod_zero_one (u : V3 ℝ) : rod u 0 1 = 1 := by
  rw [rod_eq_kpoly, sub_self, kpoly_one]

/-- Rodrigues' formula is additive in the angle about a fixed unit axis -/
theorem rod_add (u : V3 ℝ) (s1 c1 s2 c2 : ℝ) (hu : u.x ^ 2 + u.y ^ 2 + u.z ^ 2 - 1 = 0) :
    rod u s1 c1 * rod u s2 c2 = rod u (s1 * c2 + c1 * s2) (c1 * c2 - s1 * s2) := by
  rw [rod_eq_kpoly, rod_eq_kpoly, rod_eq_kpoly, kpoly_mul _ (hat_cube u hu)]
  congr 1 <;> ring

theorem rod_orth (u : V3 ℝ) (s c : ℝ) (hu : u.x ^ 2 + u.y ^ 2 + u.z ^ 2 - 1 = 0)
    (hsc : s ^ 2 + c ^ 2 - 1 = 0) : (rod u s c).T * rod u s c = M3.one := by
  rw [rod_T, rod_add u _ _ _ _ hu, show -s * c + c * s = 0 by ring,
    show c * c - -s * s = 1 by linear_combination hsc, rod_zero_one]
  rfl

theorem rod_det (u : V3 ℝ) (s c : ℝ) (hu : u.x ^ 2 + u.y ^ 2 + u.z ^ 2 - 1 = 0)
    (hsc : s ^ 2 + c ^ 2 - 1 = 0) : (rod u s c).det = 1 := by
  obtain ⟨x, y, z⟩ := u
  -- in t = 1 - c the determinant is (1 - t|u|²)² + s²|u|²; expanding in c instead costs `ring` half as much again
  obtain ⟨t, rfl⟩ : ∃ t, c = 1 - t := ⟨1 - c, (sub_sub_cancel 1 c).symm⟩
  unfold rod
  m3simp
  linear_combination (s^2 - 2*t + t^2*(x^2+y^2+z^2) + t^2) * hu + hsc

theorem rod_isRot (u : V3 ℝ) (θ : ℝ) (hu : u.x ^ 2 + u.y ^ 2 + u.z ^ 2 - 1 = 0) :
    IsRot (rod u (Real.sin θ) (Real.cos θ)) :=
  have hsc : Real.sin θ ^ 2 + Real.cos θ ^ 2 - 1 = 0 := sub_eq_zero.mpr (Real.sin_sq_add_cos_sq θ)
  ⟨rod_orth u _ _ hu hsc, rod_det u _ _ hu hsc⟩

theorem rod_trace (u : V3 ℝ) (s c : ℝ) (hu : u.x ^ 2 + u.y ^ 2 + u.z ^ 2 - 1 = 0) :
    (rod u s c).trace = 1 + 2 * c := by
  obtain ⟨x, y, z⟩ := u
  unfold rod
  m3simp
  linear_combination (2 * c - 2) * hu

theorem rod_skew_part (u : V3 ℝ) (s c : ℝ) :
    rod u s c - (rod u s c).T = (2 * s) • hat u := by
  -- the 1 and the (1 − c)·[u]² terms cancel; s·[u] − (−s)·[u] = (s + s)·[u]
  rw [rod_T, rod_eq, rod_eq, add_sub_add_right_eq_sub, add_sub_add_left_eq_sub, ← sub_smul, sub_neg_eq_add, ← two_mul]

/-! ### `MatrixExp3` in closed form -/

/-- outside the near-zero band the code computes Rodrigues' formula for the unit axis -/
theorem exp3_eq_rod (w : V3 ℝ) (h : ¬ nearZero (norm3 w)) :
    matrixExp3 (hat w) = rod (V3.sdiv w (norm3 w)) (Real.sin (norm3 w)) (Real.cos (norm3 w)) := by
  unfold matrixExp3
  simp only [vee_hat, if_neg h, sin_real, cos_real, ofNat_real_one]
  rw [rod, hat_sdiv]

theorem exp3_small (w : V3 ℝ) (h : nearZero (norm3 w)) : matrixExp3 (hat w) = M3.one := by
  unfold matrixExp3
  simp only [vee_hat, if_pos h]

/-- `MatrixExp3` of any rotation vector is a proper rotation (both branches of the cut-off) -/
theorem exp3_isRot (w : V3 ℝ) : IsRot (matrixExp3 (hat w)) := by
  by_cases h : nearZero (norm3 w)
  · rw [exp3_small w h]; exact isRot_one
  · rw [exp3_eq_rod w h]
    exact rod_isRot _ _ (unit_of_pos w (pos_of_not_nearZero (norm3_nonneg w) h))

/-- the exponential of `θ u`, u a unit vector, is Rodrigues' formula wherever the code does not cut off -/
theorem exp3_axis (u : V3 ℝ) (hu : u.x ^ 2 + u.y ^ 2 + u.z ^ 2 - 1 = 0) (θ : ℝ) (hθ : θ = 0 ∨ (1e-6 : ℝ) ≤ θ) :
    matrixExp3 (hat (θ • u)) = rod u (Real.sin θ) (Real.cos θ) := by
  have hn := norm3_smul_unit (norm3_of_unit hu) θ
  rcases hθ with h0 | h6
  · rw [exp3_small _ (by rw [hn, h0, abs_zero]; exact nearZero_zero), h0, Real.sin_zero, Real.cos_zero,
      rod_zero_one]
    rfl
  · have hpos := pos_of_cutoff_le h6
    rw [abs_of_pos hpos] at hn
    rw [exp3_eq_rod _ (by rw [hn]; exact not_nearZero_of_le θ h6), hn, V3.sdiv_smul_cancel hpos.ne']

theorem rod_conj (R : M3 ℝ) (hR : IsRot R) (u : V3 ℝ) (s c : ℝ) :
    rod (R.mulVec u) s c = R * rod u s c * R.T := by
  rw [rod_eq_kpoly, rod_eq_kpoly, hat_conj R hR, kpoly_conj R R.T _ (isRot_inv hR).1 (isRot_inv hR).2]

/-- **exp3 [R w] = R · exp3 [w] · Rᵀ** for every rotation vector (both sides of the cut-off) -/
theorem exp3_conj (R : M3 ℝ) (hR : IsRot R) (w : V3 ℝ) :
    matrixExp3 (hat (R.mulVec w)) = R * matrixExp3 (hat w) * R.T := by
  by_cases hz : nearZero (norm3 w)
  · rw [exp3_small w hz, exp3_small _ (by rw [norm3_rot R hR]; exact hz), M3.one_eq, mul_one, (isRot_inv hR).1]
  · rw [exp3_eq_rod w hz, exp3_eq_rod _ (by rw [norm3_rot R hR]; exact hz), norm3_rot R hR, V3.sdiv_eq_smul,
      V3.sdiv_eq_smul, ← mulVec_smul, rod_conj R hR]

end BR.Rot
