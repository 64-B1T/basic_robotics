/-
  What is specific to the transform-object model (Model/Tm.lean): the frame conversions on six-vectors are a matrix
  product read back as a six-vector; the quaternion map is homogeneous of degree 2 in the quaternion before
  normalisation, which gives its orthogonality, its determinant and (Props/C04) its invariance under scaling.
-/
import BR.Lemmas.SE3
import BR.Model.Tm

namespace BR.Rot
open BR.MR BR.TmModel

theorem localToGlobalTAA_eq (u v : V6 ℝ) : localToGlobalTAA u v = tmToTAA (taaToTM u * taaToTM v) :=
  V6.ext (add_comm _ _) rfl

theorem globalToLocalTAA_eq (u v : V6 ℝ) :
    globalToLocalTAA u v = tmToTAA (transInv (taaToTM u) * taaToTM v) :=
  V6.ext (transInv_act (taaToTM u) v.a).symm rfl

/-- the matrix scipy assigns to a quaternion (x, y, z, w) once it is normalised -/
noncomputable def quatMat (x y z w : ℝ) : M3 ℝ :=
  ⟨x * x - y * y - z * z + w * w, 2 * (x * y - z * w), 2 * (x * z + y * w),
   2 * (x * y + z * w), -(x * x) + y * y - z * z + w * w, 2 * (y * z - x * w),
   2 * (x * z - y * w), 2 * (y * z + x * w), -(x * x) - y * y + z * z + w * w⟩

theorem quatToRot_eq (x y z w n : ℝ) (hn : Real.sqrt (x * x + y * y + z * z + w * w) = n) :
    quatToRot x y z w = quatMat (x / n) (y / n) (z / n) (w / n) := by
  subst hn; rfl

theorem quatMat_orth (x y z w : ℝ) :
    (quatMat x y z w).T * quatMat x y z w = ((x * x + y * y + z * z + w * w) ^ 2) • (1 : M3 ℝ) := by
  unfold quatMat; m3ring

theorem quatMat_det (x y z w : ℝ) : (quatMat x y z w).det = (x * x + y * y + z * z + w * w) ^ 3 := by
  unfold quatMat; m3ring

theorem quatMat_smul (s x y z w : ℝ) : quatMat (s * x) (s * y) (s * z) (s * w) = (s * s) • quatMat x y z w := by
  unfold quatMat; m3ring

/-- scipy's quaternion-to-matrix map yields a proper rotation for every non-zero quaternion -/
theorem quatToRot_isRot (x y z w : ℝ) (hq : 0 < x * x + y * y + z * z + w * w) :
    IsRot (quatToRot x y z w) := by
  obtain ⟨n, hn⟩ : ∃ n, Real.sqrt (x * x + y * y + z * z + w * w) = n := ⟨_, rfl⟩
  have hn2 : n * n = x * x + y * y + z * z + w * w := by rw [← hn]; exact Real.mul_self_sqrt hq.le
  have hn0 : n ≠ 0 := fun h => by rw [h, zero_mul] at hn2; exact hq.ne hn2
  have hunit : x / n * (x / n) + y / n * (y / n) + z / n * (z / n) + w / n * (w / n) = 1 := by
    simp only [div_mul_div_comm, ← add_div]
    rw [← hn2, div_self (mul_self_ne_zero.mpr hn0)]
  rw [quatToRot_eq x y z w n hn]
  exact ⟨by rw [quatMat_orth, hunit, one_pow, one_smul]; rfl, by rw [quatMat_det, hunit, one_pow]⟩

end BR.Rot
