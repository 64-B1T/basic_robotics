/-
  The axis–angle normal form of `MatrixLog3` on SO(3): for every rotation R the code's logarithm is `[θ u]` with u a
  unit vector, θ = arccos((tr R − 1)/2) and R = I + sin θ [u] + (1 − cos θ)[u]².  The round trips exp ∘ log and
  log ∘ exp are read off that form.
-/
import BR.Lemmas.Exp3

namespace BR.Rot
open BR.MR

theorem safeClip_eq {x : ℝ} (hlo : -1 ≤ x) (hhi : x ≤ 1) : safeClip x (-1) 1 = x := by
  unfold safeClip smin smax
  rw [if_neg (not_lt.mpr hlo)]
  split_ifs with h
  · rfl
  · exact le_antisymm (not_lt.mp h) hhi

/-- the port's `SafeClip` never changes the angle: `arccos` clamps its argument to [-1, 1] anyway -/
theorem arccos_safeClip (x : ℝ) : Real.arccos (safeClip x (-1) 1) = Real.arccos x := by
  rcases lt_or_ge x (-1) with h | h
  · have : safeClip x (-1) 1 = -1 := by
      unfold safeClip smin smax
      rw [if_pos h, if_pos (by norm_num)]
    rw [this, Real.arccos_neg_one, Real.arccos_eq_pi.mpr h.le]
  · rcases le_or_gt x 1 with h' | h'
    · rw [safeClip_eq h h']
    · have : safeClip x (-1) 1 = 1 := by
        unfold safeClip smin smax
        rw [if_neg (not_lt.mpr h), if_neg (not_lt.mpr h'.le)]
      rw [this, Real.arccos_one, Real.arccos_eq_zero.mpr h'.le]

theorem log3_of_one_le {R : M3 ℝ} (h : 1 ≤ (R.trace - 1) / 2) : matrixLog3 R = M3.zero := by
  unfold matrixLog3
  simp only [ofNat_real_one, ofNat_real]
  rw [if_pos h]

theorem one_le_trace_one : 1 ≤ ((M3.one : M3 ℝ).trace - 1) / 2 := by
  simp only [M3.trace, M3.one, ofNat_real_one]; norm_num

theorem log3_one : matrixLog3 (M3.one : M3 ℝ) = M3.zero := log3_of_one_le one_le_trace_one

theorem log3_of_lt {R : M3 ℝ} (hlo : -1 < (R.trace - 1) / 2) (hhi : (R.trace - 1) / 2 < 1) :
    matrixLog3 R =
      (Real.arccos ((R.trace - 1) / 2) / 2 / Real.sin (Real.arccos ((R.trace - 1) / 2))) • (R - R.T) := by
  unfold matrixLog3
  simp only [ofNat_real_one, ofNat_real, acos_real, sin_real]
  rw [if_neg (not_le.mpr hhi), if_neg (not_le.mpr hlo), arccos_safeClip]
  rfl

/-- half-turn branch: the three pivots of the code, chosen by the `NearZero` tests on 1 + R₃₃ and 1 + R₂₂ -/
theorem log3_of_le_neg_one {R : M3 ℝ} (h : (R.trace - 1) / 2 ≤ -1) :
    matrixLog3 R = hat (V3.smul Real.pi
      (if ¬ nearZero (1 + R.a33) then
        V3.smul (1 / Real.sqrt (2 * (1 + R.a33))) ⟨R.a13, R.a23, 1 + R.a33⟩
      else if ¬ nearZero (1 + R.a22) then
        V3.smul (1 / Real.sqrt (2 * (1 + R.a22))) ⟨R.a12, 1 + R.a22, R.a32⟩
      else
        V3.smul (1 / Real.sqrt (2 * (1 + R.a11))) ⟨1 + R.a11, R.a21, R.a31⟩)) := by
  unfold matrixLog3
  simp only [ofNat_real_one, ofNat_real, sqrt_real, pi_real]
  rw [if_neg (not_le.mpr (h.trans_lt (by norm_num))), if_pos h]

/-- `R` is the rotation by `θ` about the unit axis `u`, and the code's logarithm of `R` is `[θ u]` -/
structure AxisAngle (R : M3 ℝ) (u : V3 ℝ) (θ : ℝ) : Prop where
  unit : u.x ^ 2 + u.y ^ 2 + u.z ^ 2 - 1 = 0
  rod : R = rod u (Real.sin θ) (Real.cos θ)
  log : matrixLog3 R = hat (θ • u)

theorem eq_zero_of_unit {x y z : ℝ} (h : x * x + y * y + z * z = 1) (hx : x = 1) : y = 0 ∧ z = 0 := by
  subst hx
  exact mul_self_add_mul_self_eq_zero.mp (by linear_combination h)

/-- the only rotation of trace 3 is the identity -/
theorem eq_one_of_isRot_trace {A : M3 ℝ} (hA : IsRot A) (ht : 3 ≤ A.trace) : A = 1 := by
  obtain ⟨a, b, c, d, e, f, g, h, i⟩ := A
  have F := facts_of_isRot hA
  have ht : 3 ≤ a + e + i := ht
  -- unit columns have diagonal entries ≤ 1, so trace ≥ 3 forces each to be 1; a unit column with an entry 1 is 0 elsewhere
  obtain ⟨ha, he, hi⟩ := F.diag
  have ha := le_of_abs_le ha
  have he := le_of_abs_le he
  have hi := le_of_abs_le hi
  have ha1 : a = 1 := le_antisymm ha (by linear_combination ht + he + hi)
  have he1 : e = 1 := le_antisymm he (by linear_combination ht + ha + hi)
  have hi1 : i = 1 := le_antisymm hi (by linear_combination ht + ha + he)
  obtain ⟨hd, hg⟩ := eq_zero_of_unit F.h1 ha1
  obtain ⟨hb, hh⟩ := eq_zero_of_unit (x := e) (y := b) (z := h) (by linear_combination F.h5) he1
  obtain ⟨hc, hf⟩ := eq_zero_of_unit (x := i) (y := c) (z := f) (by linear_combination F.h9) hi1
  rw [hb, hc, hd, hf, hg, hh, ha1, he1, hi1]
  m3simp

/-- R² = Rᵀ + t R − t I on SO(3): Cayley–Hamilton with adj R = Rᵀ -/
theorem sq_eq_of_isRot {R : M3 ℝ} (hR : IsRot R) : R * R = R.T + R.trace • R - R.trace • (1 : M3 ℝ) := by
  have h := adj_eq R
  rw [← T_eq_adj hR.1 hR.2, show R.T.trace = R.trace from rfl] at h
  rw [h]; abel

/-- (R − Rᵀ)² = (1 + t)(R + Rᵀ − 2I) on SO(3) -/
theorem skew_sq {R : M3 ℝ} (hR : IsRot R) :
    (R - R.T) * (R - R.T) = (1 + R.trace) • (R + R.T - (2 : ℝ) • (1 : M3 ℝ)) := by
  obtain ⟨i1, i2⟩ := isRot_inv hR
  have h1 := sq_eq_of_isRot hR
  have h2 := sq_eq_of_isRot (isRot_T hR)
  rw [T_T, show R.T.trace = R.trace from rfl] at h2
  -- expand, put in R Rᵀ = Rᵀ R = 1 and the two squares; with the scalars distributed what is left is additive
  rw [sub_mul, mul_sub, mul_sub, i1, i2, h1, h2]
  simp only [add_smul, one_smul, smul_sub, smul_add, two_smul]
  abel

theorem hat_vee_skew (R : M3 ℝ) : hat (vee (R - R.T)) = R - R.T := by m3ring

/-- ‖vee(R − Rᵀ)‖² = (3 − t)(1 + t) on SO(3) -/
theorem vee_skew_normSq {R : M3 ℝ} (hR : IsRot R) :
    (vee (R - R.T)).x ^ 2 + (vee (R - R.T)).y ^ 2 + (vee (R - R.T)).z ^ 2 = (3 - R.trace) * (1 + R.trace) := by
  obtain ⟨a, b, c, d, e, f, g, h, i⟩ := R
  have F := facts_of_isRot hR
  show (h - f) ^ 2 + (c - g) ^ 2 + (d - b) ^ 2 = (3 - (a + e + i)) * (1 + (a + e + i))
  linear_combination (1) * F.h1 + (1) * F.h5 + (1) * F.h9 + (-2) * F.ca + (-2) * F.ce + (-2) * F.ci

/-- generic branch: the axis is vee(R − Rᵀ)/(2 sin θ) -/
theorem axisAngle_generic (R : M3 ℝ) (hR : IsRot R) (hlo : -1 < (R.trace - 1) / 2) (hhi : (R.trace - 1) / 2 < 1) :
    ∃ u, AxisAngle R u (Real.arccos ((R.trace - 1) / 2)) := by
  have hlog := log3_of_lt hlo hhi
  have hsk := skew_sq hR
  have hv := vee_skew_normSq hR
  rw [← hat_vee_skew] at hlog hsk
  set θ := Real.arccos ((R.trace - 1) / 2)
  have hc : Real.cos θ = (R.trace - 1) / 2 := Real.cos_arccos hlo.le hhi.le
  have hpos : 0 < Real.sin θ :=
    Real.sin_pos_of_pos_of_lt_pi (Real.arccos_pos.mpr hhi) (Real.arccos_lt_pi.mpr hlo)
  -- name sin θ: it also occurs inside the `AxisAngle` of the goal, out of `generalize`'s reach
  obtain ⟨s, hs⟩ : ∃ s, Real.sin θ = s := ⟨_, rfl⟩
  have hs2 : s ^ 2 = 1 - ((R.trace - 1) / 2) ^ 2 := by rw [← hs, Real.sin_sq, hc]
  rw [hs] at hlog hpos
  -- k = 1/(2s), used through k·2s = 1; by `hs2`, k²(3 − t)(1 + t) = 4k²(1 − cos²θ) = (2ks)² = 1
  obtain ⟨k, hk⟩ : ∃ k, k = (2 * s)⁻¹ := ⟨_, rfl⟩
  have hk1 : k * (2 * s) = 1 := hk ▸ inv_mul_cancel₀ (mul_ne_zero two_ne_zero hpos.ne')
  have hk2 : k ^ 2 * ((3 - R.trace) * (1 + R.trace)) = 1 := by
    linear_combination (-4 * k ^ 2) * hs2 + (k * (2 * s) + 1) * hk1
  refine ⟨k • vee (R - R.T), ?_, ?_, ?_⟩
  · -- k²|vee(R − Rᵀ)|² = k²(3 − t)(1 + t) (`hv`) = 1
    show (k * (vee (R - R.T)).x) ^ 2 + (k * (vee (R - R.T)).y) ^ 2 + (k * (vee (R - R.T)).z) ^ 2 - 1 = 0
    linear_combination k ^ 2 * hv + hk2
  · -- sK = ½(R − Rᵀ) and, by `skew_sq`, (1 − cos θ)K² = ½(R + Rᵀ − 2I) since (1 − cos θ)(1 + t)/(4 sin²θ) = ½;
    -- the two halves add up to R − I
    have h1 : s * k = 2⁻¹ := by linear_combination hk1 / 2
    have h2 : (1 - (R.trace - 1) / 2) * (k * (k * (1 + R.trace))) = 2⁻¹ := by linear_combination hk2 / 2
    have e : R - R.T + (R + R.T - (2 : ℝ) • (1 : M3 ℝ)) = (2 : ℝ) • (R - 1) := by rw [two_smul, two_smul]; abel
    rw [rod_eq, hat_smul, hc, hs]
    simp only [smul_mul_assoc, mul_smul_comm, smul_smul, hsk, h1, h2]
    rw [hat_vee_skew, add_assoc, ← smul_add, e, inv_smul_smul₀ two_ne_zero, add_sub_cancel]
  · rw [hlog, hat_smul, hat_smul, smul_smul, div_div, div_eq_mul_inv, hk]

/-! half-turn branch: composing R with the half turn about a fixed unit vector gives a rotation of trace 3 -/

/-- the trace of A·H for the half turn H = I + 2[u]² about u -/
theorem trace_mul_halfturn (A : M3 ℝ) (u : V3 ℝ) :
    (A * rod u 0 (-1)).trace = A.trace + 2 * (V3.dot u (A.mulVec u) - V3.dot u u * A.trace) := by
  unfold rod; m3ring

/-- a rotation of trace −1 that fixes the unit vector u is the half turn about u -/
theorem eq_rod_pi_of_fix {R : M3 ℝ} (hR : IsRot R) (ht : R.trace = -1) {u : V3 ℝ}
    (hu : u.x ^ 2 + u.y ^ 2 + u.z ^ 2 - 1 = 0) (hfix : R.mulVec u = u) :
    R = rod u (Real.sin Real.pi) (Real.cos Real.pi) := by
  have hH := rod_isRot u Real.pi hu
  rw [Real.sin_pi, Real.cos_pi] at hH ⊢
  -- tr(R·H) = tr R + 2(u·Ru − |u|² tr R) = −1 + 2(|u|² + |u|²) = 3
  have h3 : (R * rod u 0 (-1)).trace = 3 := by
    rw [trace_mul_halfturn, hfix, ht, V3.dot]
    linear_combination 4 * hu
  have h1 := eq_one_of_isRot_trace (isRot_mul hR hH) h3.ge
  calc R = R * (rod u 0 (-1) * (rod u 0 (-1)).T) := by rw [(isRot_inv hH).1, mul_one]
    _ = (rod u 0 (-1)).T := by rw [← mul_assoc, h1, one_mul]
    _ = rod u 0 (-1) := by rw [rod_T, neg_zero]

theorem eq_zero_of_sq_add_eq_zero {x y z : ℝ} (h : x ^ 2 + y ^ 2 + z ^ 2 = 0) : x = 0 ∧ y = 0 ∧ z = 0 := by
  rw [add_eq_zero_iff_of_nonneg (add_nonneg (sq_nonneg x) (sq_nonneg y)) (sq_nonneg z),
    add_eq_zero_iff_of_nonneg (sq_nonneg x) (sq_nonneg y), and_assoc] at h
  simpa only [sq_eq_zero_iff] using h

/-- normalising a vector of squared length 2(1+p) > 0 the way the half-turn branch does gives a unit vector -/
theorem unit_of_pivot (v : V3 ℝ) (p : ℝ) (hp : 0 < 1 + p) (hv : v.x * v.x + v.y * v.y + v.z * v.z = 2 * (1 + p)) :
    (V3.smul (1 / Real.sqrt (2 * (1 + p))) v).x ^ 2 + (V3.smul (1 / Real.sqrt (2 * (1 + p))) v).y ^ 2 +
      (V3.smul (1 / Real.sqrt (2 * (1 + p))) v).z ^ 2 - 1 = 0 := by
  have h2 : 0 < 2 * (1 + p) := mul_pos two_pos hp
  have hσ2 : Real.sqrt (2 * (1 + p)) ^ 2 = 2 * (1 + p) := Real.sq_sqrt h2.le
  have hσ : Real.sqrt (2 * (1 + p)) ≠ 0 := (Real.sqrt_pos.mpr h2).ne'
  simp only [V3.smul]
  field_simp
  linear_combination hv - hσ2

/-- a symmetric rotation squares to I, so it fixes every column of R + I: R(R + I) = R² + R = I + R -/
theorem mulVec_add_one_of_symm {R : M3 ℝ} (hR : IsRot R) (hs : R.T = R) (w : V3 ℝ) :
    R.mulVec ((R + 1).mulVec w) = (R + 1).mulVec w := by
  have hsq : R * R = 1 := by simpa only [hs] using (isRot_inv hR).1
  rw [← mulVec_mul, mul_add, hsq, mul_one, add_comm]

/-- half-turn branch: the pivot column of R + I, normalised, is the axis -/
theorem axisAngle_halfturn (R : M3 ℝ) (hR : IsRot R) (hle : (R.trace - 1) / 2 ≤ -1) :
    ∃ u, AxisAngle R u Real.pi := by
  have hlog := log3_of_le_neg_one hle
  obtain ⟨a, b, c, d, e, f, g, h, i⟩ := R
  have F := facts_of_isRot hR
  have htr : (M3.trace (⟨a, b, c, d, e, f, g, h, i⟩ : M3 ℝ)) = a + e + i := rfl
  have hv := vee_skew_normSq hR
  simp only [vee, M3.sub_def, M3.sub, M3.T, M3.trace] at hv
  -- ‖vee(R − Rᵀ)‖² = (3 − t)(1 + t) ≥ 0 forces t ≥ −1, so t = −1 exactly and R is symmetric
  have hge : 0 ≤ (3 - (a + e + i)) * (1 + (a + e + i)) := by
    rw [← hv]; exact add_nonneg (add_nonneg (sq_nonneg _) (sq_nonneg _)) (sq_nonneg _)
  have hle' : a + e + i ≤ -1 := by linarith only [htr ▸ hle]
  have h3 : 0 < 3 - (a + e + i) := by linarith only [hle']
  have ht : a + e + i = -1 := by linarith only [hle', nonneg_of_mul_nonneg_right hge h3]
  obtain ⟨s3, s2, s1⟩ := eq_zero_of_sq_add_eq_zero (by rw [hv, ht]; ring)
  rw [sub_eq_zero] at s1 s2 s3
  have hsym : (⟨a, b, c, d, e, f, g, h, i⟩ : M3 ℝ).T = ⟨a, b, c, d, e, f, g, h, i⟩ :=
    M3.ext rfl s1 s2.symm s1.symm rfl s3 s2 s3.symm rfl
  -- in each case the pivot v is column k of R + I: |v|² = 2(1 + p) is the unit-column relation, R fixes v, and hence
  -- R is the half turn about v
  have key : ∀ (v w : V3 ℝ) (p : ℝ), 0 < 1 + p → v.x * v.x + v.y * v.y + v.z * v.z = 2 * (1 + p) →
      v = ((⟨a, b, c, d, e, f, g, h, i⟩ : M3 ℝ) + 1).mulVec w →
      matrixLog3 ⟨a, b, c, d, e, f, g, h, i⟩ = hat (V3.smul Real.pi (V3.smul (1 / Real.sqrt (2 * (1 + p))) v)) →
      ∃ u, AxisAngle ⟨a, b, c, d, e, f, g, h, i⟩ u Real.pi := by
    intro v w p hp hv hcol hl
    have hu := unit_of_pivot v p hp hv
    refine ⟨_, hu, eq_rod_pi_of_fix hR (by rw [htr, ht]) hu ?_, hl⟩
    rw [V3.smul_eq, mulVec_smul, hcol, mulVec_add_one_of_symm hR hsym]
  obtain ⟨-, he', hi'⟩ := F.diag
  have hi1 : 0 ≤ 1 + i := neg_le_iff_add_nonneg'.mp (abs_le.mp hi').1
  have he1 : 0 ≤ 1 + e := neg_le_iff_add_nonneg'.mp (abs_le.mp he').1
  by_cases hz : nearZero (1 + i)
  · by_cases hy : nearZero (1 + e)
    · rw [if_neg (not_not.mpr hz), if_neg (not_not.mpr hy)] at hlog
      rw [nearZero_iff, abs_of_nonneg hi1] at hz
      rw [nearZero_iff, abs_of_nonneg he1] at hy
      -- third pivot: both tests held, so 1 + e, 1 + i < 1e-6, and a = −1 − e − i gives 1 + a > 1 − 2e-6 > 0
      exact key ⟨1 + a, d, g⟩ ⟨1, 0, 0⟩ a (by linarith only [hz, hy, ht]) (by linear_combination F.h1) (by m3ring) hlog
    · rw [if_neg (not_not.mpr hz), if_pos hy] at hlog
      exact key ⟨b, 1 + e, h⟩ ⟨0, 1, 0⟩ e (pos_of_not_nearZero he1 hy) (by linear_combination F.h5) (by m3ring) hlog
  · rw [if_pos hz] at hlog
    exact key ⟨c, f, 1 + i⟩ ⟨0, 0, 1⟩ i (pos_of_not_nearZero hi1 hz) (by linear_combination F.h9) (by m3ring) hlog

/-- **axis–angle form of the logarithm**: on all of SO(3) (identity, generic and half-turn branches with the three
    pivots) the code's logarithm is `[θ u]`, where θ is the angle read off the trace and R the rotation by θ about u -/
theorem log3_axisAngle (R : M3 ℝ) (hR : IsRot R) : ∃ u, AxisAngle R u (Real.arccos ((R.trace - 1) / 2)) := by
  rcases le_or_gt 1 ((R.trace - 1) / 2) with h1 | h1
  · have hR1 : R = 1 := eq_one_of_isRot_trace hR (by linarith)
    rw [Real.arccos_eq_zero.mpr h1]
    refine ⟨⟨1, 0, 0⟩, by norm_num, ?_, ?_⟩
    · rw [Real.sin_zero, Real.cos_zero, rod_zero_one, hR1]
    · rw [log3_of_one_le h1, zero_smul, hat_zero]; rfl
  · rcases le_or_gt ((R.trace - 1) / 2) (-1) with h2 | h2
    · rw [Real.arccos_eq_pi.mpr h2]
      exact axisAngle_halfturn R hR h2
    · exact axisAngle_generic R hR h2 h1

theorem AxisAngle.norm3_smul {R : M3 ℝ} {u : V3 ℝ} {θ : ℝ} (h : AxisAngle R u θ) : norm3 (θ • u) = |θ| :=
  norm3_smul_unit (norm3_of_unit h.unit) θ

/-! ### the round trips -/

/-- **exp3 ∘ log3 = id on all of SO(3)** outside the near-zero band: identity, generic and
    half-turn branches (all three pivots).  Inside the band (0 < angle < 1e-6) the code's exp3
    returns the identity and the statement is false by design; `C03B.band_roundtrip_bound` bounds what is lost. -/
theorem exp3_log3 (R : M3 ℝ) (hR : IsRot R)
    (h : 1 ≤ (R.trace - 1) / 2 ∨ (1e-6 : ℝ) ≤ Real.arccos ((R.trace - 1) / 2)) :
    matrixExp3 (matrixLog3 R) = R := by
  obtain ⟨u, hA⟩ := log3_axisAngle R hR
  rw [hA.log, exp3_axis u hA.unit _ (h.imp_left Real.arccos_eq_zero.mpr)]
  exact hA.rod.symm

theorem exp3_log3_generic (R : M3 ℝ) (hR : IsRot R) (hlo : -1 < (R.trace - 1) / 2)
    (hhi : (R.trace - 1) / 2 < 1) (hθ : (1e-6 : ℝ) ≤ Real.arccos ((R.trace - 1) / 2)) :
    matrixExp3 (matrixLog3 R) = R := exp3_log3 R hR (Or.inr hθ)

theorem exp3_log3_identity (R : M3 ℝ) (hR : IsRot R) (h : 1 ≤ (R.trace - 1) / 2) :
    matrixExp3 (matrixLog3 R) = R := exp3_log3 R hR (Or.inl h)

theorem cutoff_le_arccos {c : ℝ} (h : c ≤ -1) : (1e-6 : ℝ) ≤ Real.arccos c := by
  rw [Real.arccos_eq_pi.mpr h]; exact le_trans (by norm_num) Real.two_le_pi

theorem exp3_log3_halfturn (R : M3 ℝ) (hR : IsRot R) (hle : (R.trace - 1) / 2 ≤ -1) :
    matrixExp3 (matrixLog3 R) = R := exp3_log3 R hR (Or.inr (cutoff_le_arccos hle))

/-- generic branch: the logarithm is `hat w` for a vector of norm θ = arccos((tr−1)/2) ∈ (0, π),
    and R is Rodrigues' formula for the axis w/θ -/
theorem log3_generic_form (R : M3 ℝ) (hR : IsRot R) (hlo : -1 < (R.trace - 1) / 2)
    (hhi : (R.trace - 1) / 2 < 1) :
    ∃ w : V3 ℝ, matrixLog3 R = hat w ∧ norm3 w = Real.arccos ((R.trace - 1) / 2) ∧
      0 < Real.arccos ((R.trace - 1) / 2) ∧ Real.arccos ((R.trace - 1) / 2) < Real.pi ∧
      R = rod (V3.sdiv w (norm3 w)) (Real.sin (norm3 w)) (Real.cos (norm3 w)) := by
  obtain ⟨u, hA⟩ := log3_axisAngle R hR
  have hpos := Real.arccos_pos.mpr hhi
  have hn := hA.norm3_smul
  rw [abs_of_pos hpos] at hn
  refine ⟨_, hA.log, hn, hpos, lt_of_le_of_ne (Real.arccos_le_pi _) (fun h => ?_), ?_⟩
  · exact absurd (Real.arccos_eq_pi.mp h) (not_le.mpr hlo)
  · rw [hn, V3.sdiv_smul_cancel hpos.ne']
    exact hA.rod

/-- half-turn branch: `MatrixLog3 R = [π u]` for a unit vector u (one of the three pivots) -/
theorem log3_halfturn_form (R : M3 ℝ) (hR : IsRot R) (hle : (R.trace - 1) / 2 ≤ -1) :
    ∃ u : V3 ℝ, u.x ^ 2 + u.y ^ 2 + u.z ^ 2 - 1 = 0 ∧ matrixLog3 R = hat (V3.smul Real.pi u) := by
  obtain ⟨u, hA⟩ := axisAngle_halfturn R hR hle
  exact ⟨u, hA.unit, hA.log⟩

theorem arccos_trace_rod {u : V3 ℝ} (hu : u.x ^ 2 + u.y ^ 2 + u.z ^ 2 - 1 = 0) {θ : ℝ} (h0 : 0 ≤ θ) (hπ : θ ≤ Real.pi) :
    Real.arccos (((rod u (Real.sin θ) (Real.cos θ)).trace - 1) / 2) = θ := by
  rw [rod_trace u _ _ hu, show (1 + 2 * Real.cos θ - 1) / 2 = Real.cos θ by ring, Real.arccos_cos h0 hπ]

/-- the logarithm of a rotation by θ ∈ (0, π) about the unit axis u is `[θ u]`: the axis the normal form finds is u,
    because the skew part 2 sin θ [u] of the rotation determines it -/
theorem log3_rod (u : V3 ℝ) (hu : u.x ^ 2 + u.y ^ 2 + u.z ^ 2 - 1 = 0) (θ : ℝ) (h0 : 0 < θ) (hπ : θ < Real.pi) :
    matrixLog3 (rod u (Real.sin θ) (Real.cos θ)) = hat (θ • u) := by
  obtain ⟨u', hA⟩ := log3_axisAngle _ (rod_isRot u θ hu)
  rw [arccos_trace_rod hu h0.le hπ.le] at hA
  have h2 := rod_skew_part u' (Real.sin θ) (Real.cos θ)
  rw [← hA.rod, rod_skew_part] at h2
  have hs : 2 * Real.sin θ ≠ 0 := (mul_pos two_pos (Real.sin_pos_of_pos_of_lt_pi h0 hπ)).ne'
  have hu' : u' = u := by
    have := congrArg vee (smul_right_injective (M3 ℝ) hs h2)
    rwa [vee_hat, vee_hat, eq_comm] at this
  rw [hA.log, hu']

/-- the logarithm is skew-symmetric on every input, so hat ∘ vee is the identity on it: each branch returns a `hat`,
    the generic one because R − Rᵀ is one (`hat_vee_skew`) -/
theorem hat_vee_log3 (R : M3 ℝ) : hat (vee (matrixLog3 R)) = matrixLog3 R := by
  rcases le_or_gt 1 ((R.trace - 1) / 2) with h1 | h1
  · rw [log3_of_one_le h1, M3.zero_eq, ← hat_zero, vee_hat]
  · rcases le_or_gt ((R.trace - 1) / 2) (-1) with h2 | h2
    · rw [log3_of_le_neg_one h2, vee_hat]
    · rw [log3_of_lt h2 h1, ← hat_vee_skew, ← hat_smul, vee_hat]

end BR.Rot
