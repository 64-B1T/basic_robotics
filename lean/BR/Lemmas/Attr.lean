/-
  The simp attribute behind `m3simp` (Lemmas/Alg.lean): an attribute cannot be used in the module that declares it.
-/
import Lean.Meta.Tactic.Simp.RegisterCommand

/-- the lemmas and unfoldings that turn every structure-level operation of the model into coordinates -/
register_simp_attr m3
