/-
  Linear algebra of the model's fixed-size structures over ℝ, in two styles that the proof files mix:
  coordinates (`m3simp` turns every structure-level operation into its nine / three scalar entries, `ring` or
  `linear_combination` closes them) and algebra (`Ring (M3 ℝ)`, `Module ℝ (M3 ℝ)`, `Module ℝ (V3 ℝ)` with the
  model's own operations, so that `noncomm_ring`, `module` and Mathlib's rewriting lemmas apply to model terms).
  `m3simp` also unfolds the algebra's `0`, `1` and `•` on `M3 ℝ` and `V3 ℝ`; going the other way (`M3.one_eq`,
  `M3.smul_eq`, `V3.mk_zero` …) is done by hand where an algebraic lemma is to fire on model text.
-/
import BR.Real
import BR.Model.MR
import BR.Lemmas.Attr
import Mathlib.Tactic.LinearCombination

namespace BR
open BR.MR

/-! ### coordinates -/

theorem M3.add_def {α} [OrdField α] (A B : M3 α) : A + B = M3.add A B := rfl
theorem M3.sub_def {α} [OrdField α] (A B : M3 α) : A - B = M3.sub A B := rfl
theorem M3.mul_def {α} [OrdField α] (A B : M3 α) : A * B = M3.mul A B := rfl
theorem M3.neg_def {α} [OrdField α] (A : M3 α) : -A = M3.neg A := rfl
theorem V3.add_def {α} [OrdField α] (A B : V3 α) : A + B = V3.add A B := rfl
theorem V3.sub_def {α} [OrdField α] (A B : V3 α) : A - B = V3.sub A B := rfl
theorem V3.neg_def {α} [OrdField α] (A : V3 α) : -A = V3.neg A := rfl
theorem V6.add_def {α} [OrdField α] (A B : V6 α) : A + B = V6.add A B := rfl
theorem V6.sub_def {α} [OrdField α] (A B : V6 α) : A - B = V6.sub A B := rfl
theorem M6.mul_def {α} [OrdField α] (A B : M6 α) : A * B = M6.mul A B := rfl
theorem T4.mul_def {α} [OrdField α] (A B : T4 α) : A * B = T4.mul A B := rfl

/-! the constants and scalar actions that the algebra needs, with the model's own operations; the `*_eq` lemmas
    say so, and `m3simp` below uses them from right to left to get back to coordinates -/

noncomputable instance : Zero (M3 ℝ) := ⟨M3.zero⟩
noncomputable instance : One (M3 ℝ) := ⟨M3.one⟩
noncomputable instance : SMul ℝ (M3 ℝ) := ⟨M3.smul⟩
noncomputable instance : Zero (V3 ℝ) := ⟨V3.zero⟩
noncomputable instance : SMul ℝ (V3 ℝ) := ⟨V3.smul⟩

theorem M3.one_eq : (M3.one : M3 ℝ) = 1 := rfl
theorem M3.zero_eq : (M3.zero : M3 ℝ) = 0 := rfl
theorem M3.smul_eq (k : ℝ) (A : M3 ℝ) : M3.smul k A = k • A := rfl
theorem V3.zero_eq : (V3.zero : V3 ℝ) = 0 := rfl
theorem V3.smul_eq (k : ℝ) (v : V3 ℝ) : V3.smul k v = k • v := rfl

attribute [m3] M3.add_def M3.sub_def M3.mul_def M3.neg_def V3.add_def V3.sub_def V3.neg_def
  V6.add_def V6.sub_def M6.mul_def T4.mul_def
  M3.add M3.sub M3.mul M3.neg M3.smul M3.sdiv M3.T M3.one M3.zero M3.mulVec M3.trace M3.det
  V3.add V3.sub V3.neg V3.smul V3.sdiv V3.dot V3.cross V3.zero
  V6.add V6.sub V6.smul V6.sdiv V6.dot M6.mul M6.mulVec M6.T M6.one T4.mul T4.one T4.act
  MR.hat MR.vee MR.hat6 MR.vee6 MR.adjoint MR.ad MR.transInv
  ofNat_real ofNat_real_zero ofNat_real_one sci_real sin_real cos_real tan_real sqrt_real acos_real pi_real
  M3.mk.injEq V3.mk.injEq V6.mk.injEq M6.mk.injEq T4.mk.injEq
attribute [m3 ←] M3.one_eq M3.zero_eq M3.smul_eq V3.zero_eq V3.smul_eq

/-- the simp set `m3` turns every structure-level operation into coordinates -/
macro "m3simp" : tactic => `(tactic| simp only [m3])

/-- coordinates, split conjunctions, close every entry by `ring` -/
macro "m3ring" : tactic => `(tactic| (m3simp <;> (try constructorm* _ ∧ _) <;> (first | exact True.intro | ring)))

/-! ### `V3 ℝ` is an ℝ-module with the model's operations -/

noncomputable instance instAddCommGroupV3Real : AddCommGroup (V3 ℝ) where
  add := V3.add
  zero := V3.zero
  neg := V3.neg
  sub := V3.sub
  add_assoc a b c := by m3ring
  zero_add a := by cases a; m3ring
  add_zero a := by cases a; m3ring
  add_comm a b := by m3ring
  neg_add_cancel a := by m3ring
  sub_eq_add_neg a b := by m3ring
  nsmul := nsmulRec
  zsmul := zsmulRec

/-- the zero vector written with ℝ's own numerals (as statements over ℝ write it) is the module's zero -/
theorem V3.mk_zero : (⟨0, 0, 0⟩ : V3 ℝ) = 0 := by
  show _ = V3.zero; simp only [V3.zero, ofNat_real_zero]

-- each law from the law of the same name in ℝ: unfold the operations that occur and rewrite with it
noncomputable instance : Module ℝ (V3 ℝ) where
  one_smul a := by simp only [← V3.smul_eq, V3.smul, one_mul]
  mul_smul x y a := by simp only [← V3.smul_eq, V3.smul, mul_assoc]
  smul_zero x := by simp only [← V3.smul_eq, V3.smul, ← V3.zero_eq, V3.zero, ofNat_real_zero, mul_zero]
  smul_add x a b := by simp only [← V3.smul_eq, V3.smul, V3.add_def, V3.add, mul_add]
  add_smul x y a := by simp only [← V3.smul_eq, V3.smul, V3.add_def, V3.add, add_mul]
  zero_smul a := by simp only [← V3.smul_eq, V3.smul, ← V3.zero_eq, V3.zero, ofNat_real_zero, zero_mul]

theorem V3.sdiv_eq_smul (v : V3 ℝ) (k : ℝ) : V3.sdiv v k = (1 / k) • v := by
  m3ring
theorem V3.sdiv_smul_cancel {k : ℝ} (hk : k ≠ 0) (v : V3 ℝ) : V3.sdiv (k • v) k = v := by
  rw [V3.sdiv_eq_smul, smul_smul, one_div_mul_cancel hk, one_smul]
theorem M3.sdiv_eq_smul (A : M3 ℝ) (k : ℝ) : M3.sdiv A k = (1 / k) • A := by
  m3ring

/-! ### matrix–vector product -/

theorem mulVec_mul (A B : M3 ℝ) (v : V3 ℝ) : (A * B).mulVec v = A.mulVec (B.mulVec v) := by m3ring
theorem mulVec_add (A : M3 ℝ) (u v : V3 ℝ) : A.mulVec (u + v) = A.mulVec u + A.mulVec v := by m3ring
theorem add_mulVec (A B : M3 ℝ) (v : V3 ℝ) : (A + B).mulVec v = A.mulVec v + B.mulVec v := by m3ring
theorem sub_mulVec (A B : M3 ℝ) (v : V3 ℝ) : (A - B).mulVec v = A.mulVec v - B.mulVec v := by m3ring
theorem smul_mulVec (k : ℝ) (A : M3 ℝ) (v : V3 ℝ) : (k • A).mulVec v = k • A.mulVec v := by
  m3ring
theorem mulVec_smul (k : ℝ) (A : M3 ℝ) (v : V3 ℝ) : A.mulVec (k • v) = k • A.mulVec v := by
  m3ring
theorem neg_mulVec (A : M3 ℝ) (v : V3 ℝ) : (-A).mulVec v = -(A.mulVec v) := by m3ring
theorem mulVec_neg (A : M3 ℝ) (v : V3 ℝ) : A.mulVec (-v) = -(A.mulVec v) := by
  rw [← neg_one_smul ℝ v, mulVec_smul, neg_one_smul]
theorem mulVec_sub (A : M3 ℝ) (u v : V3 ℝ) : A.mulVec (u - v) = A.mulVec u - A.mulVec v := by
  rw [sub_eq_add_neg, mulVec_add, mulVec_neg, ← sub_eq_add_neg]
theorem zero_mulVec (v : V3 ℝ) : (M3.zero : M3 ℝ).mulVec v = 0 := by
  m3ring
theorem mulVec_zero (A : M3 ℝ) : A.mulVec 0 = 0 := by
  m3ring
theorem one_mulVec (v : V3 ℝ) : (1 : M3 ℝ).mulVec v = v := by
  cases v; m3ring

/-! ### `M3 ℝ` is a ring and an ℝ-module with the model's operations -/

theorem M3.ext_mulVec {A B : M3 ℝ} (h : ∀ v, A.mulVec v = B.mulVec v) : A = B := by
  have h1 := h ⟨1, 0, 0⟩; have h2 := h ⟨0, 1, 0⟩; have h3 := h ⟨0, 0, 1⟩
  simp only [M3.mulVec, mul_one, mul_zero, add_zero, zero_add, V3.mk.injEq] at h1 h2 h3
  exact M3.ext h1.1 h2.1 h3.1 h1.2.1 h2.2.1 h3.2.1 h1.2.2 h2.2.2 h3.2.2

/-- the additive laws entry by entry, from the law of the same name in ℝ (unfold the operations that occur and
    rewrite with it: `m3ring` would call `ring` nine times for the one law); the multiplicative ones are those of
    the action on vectors (`M3.ext_mulVec`) -/
noncomputable instance instRingM3 : Ring (M3 ℝ) where
  add := M3.add
  zero := M3.zero
  neg := M3.neg
  sub := M3.sub
  mul := M3.mul
  one := M3.one
  add_assoc a b c := by simp only [M3.add_def, M3.add, add_assoc]
  zero_add a := by simp only [M3.add_def, M3.add, ← M3.zero_eq, M3.zero, ofNat_real_zero, zero_add]
  add_zero a := by simp only [M3.add_def, M3.add, ← M3.zero_eq, M3.zero, ofNat_real_zero, add_zero]
  add_comm a b := by simp only [M3.add_def, M3.add, add_comm]
  left_distrib a b c := M3.ext_mulVec fun v => by
    rw [mulVec_mul, add_mulVec, mulVec_add, add_mulVec, mulVec_mul, mulVec_mul]
  right_distrib a b c := M3.ext_mulVec fun v => by
    rw [mulVec_mul, add_mulVec, add_mulVec, mulVec_mul, mulVec_mul]
  zero_mul a := M3.ext_mulVec fun v => by
    show (M3.zero * a).mulVec v = M3.zero.mulVec v
    rw [mulVec_mul, zero_mulVec, zero_mulVec]
  mul_zero a := M3.ext_mulVec fun v => by
    show (a * M3.zero).mulVec v = M3.zero.mulVec v
    rw [mulVec_mul, zero_mulVec, mulVec_zero]
  mul_assoc a b c := M3.ext_mulVec fun v => by
    rw [mulVec_mul, mulVec_mul, mulVec_mul, mulVec_mul]
  one_mul a := M3.ext_mulVec fun v => by
    rw [mulVec_mul]; exact one_mulVec _
  mul_one a := M3.ext_mulVec fun v => by
    rw [mulVec_mul]; exact congrArg a.mulVec (one_mulVec v)
  neg_add_cancel a := by simp only [M3.add_def, M3.add, M3.neg, ← M3.zero_eq, M3.zero, ofNat_real_zero, neg_add_cancel]
  sub_eq_add_neg a b := by simp only [M3.sub_def, M3.sub, M3.add_def, M3.add, M3.neg, sub_eq_add_neg]
  nsmul := nsmulRec
  zsmul := zsmulRec

-- the ring structure is found on terms written with the model's own `+` and `*`
example (A B C : M3 ℝ) : A * (B + C) * A = A * B * A + A * C * A := by noncomm_ring

noncomputable instance : Module ℝ (M3 ℝ) where
  one_smul a := by simp only [← M3.smul_eq, M3.smul, one_mul]
  mul_smul x y a := by simp only [← M3.smul_eq, M3.smul, mul_assoc]
  smul_zero x := by simp only [← M3.smul_eq, M3.smul, ← M3.zero_eq, M3.zero, ofNat_real_zero, mul_zero]
  smul_add x a b := by simp only [← M3.smul_eq, M3.smul, M3.add_def, M3.add, mul_add]
  add_smul x y a := by simp only [← M3.smul_eq, M3.smul, M3.add_def, M3.add, add_mul]
  zero_smul a := by simp only [← M3.smul_eq, M3.smul, ← M3.zero_eq, M3.zero, ofNat_real_zero, zero_mul]

noncomputable instance : IsScalarTower ℝ (M3 ℝ) (M3 ℝ) :=
  ⟨fun k A B => M3.ext_mulVec fun v => by
    show (k • A * B).mulVec v = (k • (A * B)).mulVec v
    rw [mulVec_mul, smul_mulVec, smul_mulVec, mulVec_mul]⟩
noncomputable instance : SMulCommClass ℝ (M3 ℝ) (M3 ℝ) :=
  ⟨fun k A B => M3.ext_mulVec fun v => by
    show (k • (A * B)).mulVec v = (A * k • B).mulVec v
    rw [smul_mulVec, mulVec_mul, mulVec_mul, smul_mulVec, mulVec_smul]⟩

/-! ### transpose, determinant, adjugate -/
namespace Rot

theorem T_mul (A B : M3 ℝ) : (A * B).T = B.T * A.T := by m3ring
theorem T_T (A : M3 ℝ) : A.T.T = A := rfl
theorem T_one : (1 : M3 ℝ).T = 1 := rfl
theorem T_add (A B : M3 ℝ) : (A + B).T = A.T + B.T := rfl
theorem T_smul (k : ℝ) (A : M3 ℝ) : (k • A).T = k • A.T := rfl
theorem det_mul (A B : M3 ℝ) : (A * B).det = A.det * B.det := by m3ring
theorem det_T (A : M3 ℝ) : A.T.det = A.det := by m3ring
theorem det_one : (1 : M3 ℝ).det = 1 := by m3simp; norm_num

/-- adjugate (transposed cofactor matrix) -/
def adj (A : M3 ℝ) : M3 ℝ :=
  ⟨A.a22 * A.a33 - A.a23 * A.a32, A.a13 * A.a32 - A.a12 * A.a33, A.a12 * A.a23 - A.a13 * A.a22,
   A.a23 * A.a31 - A.a21 * A.a33, A.a11 * A.a33 - A.a13 * A.a31, A.a13 * A.a21 - A.a11 * A.a23,
   A.a21 * A.a32 - A.a22 * A.a31, A.a12 * A.a31 - A.a11 * A.a32, A.a11 * A.a22 - A.a12 * A.a21⟩

theorem mul_adj (A : M3 ℝ) : A * adj A = A.det • (1 : M3 ℝ) := by
  unfold adj; m3ring
/-- Cayley–Hamilton, divided by A -/
theorem adj_eq (A : M3 ℝ) : adj A = A * A - A.trace • A + (adj A).trace • (1 : M3 ℝ) := by
  unfold adj; m3ring

end Rot

/-! ### `hat` -/

theorem hat_add (a b : V3 ℝ) : hat (a + b) = hat a + hat b := by m3ring
theorem hat_smul (k : ℝ) (a : V3 ℝ) : hat (k • a) = k • hat a := by
  m3ring
theorem hat_sdiv (a : V3 ℝ) (k : ℝ) : hat (V3.sdiv a k) = M3.sdiv (hat a) k := by
  rw [V3.sdiv_eq_smul, M3.sdiv_eq_smul, hat_smul]
theorem hat_T (a : V3 ℝ) : (hat a).T = -hat a := by m3ring
theorem hat_mulVec_anticomm (a b : V3 ℝ) : (hat a).mulVec b = -((hat b).mulVec a) := by m3ring
theorem hat_mulVec (a b : V3 ℝ) : (hat a).mulVec b = V3.cross a b := by m3ring
theorem hat_mulVec_self (w : V3 ℝ) : (hat w).mulVec w = 0 := by
  m3ring
theorem hat_zero : hat (0 : V3 ℝ) = 0 := by
  rw [← zero_smul ℝ (0 : V3 ℝ), hat_smul, zero_smul]
theorem hat_neg (w : V3 ℝ) : hat (-w) = -hat w := by
  rw [← neg_one_smul ℝ w, hat_smul, neg_one_smul]

namespace Rot

theorem vee_hat (w : V3 ℝ) : vee (hat w) = w := by cases w; rfl

theorem hat_cofactor (M : M3 ℝ) (v : V3 ℝ) :
    M.T * MR.hat (M.mulVec v) * M = M3.smul M.det (MR.hat v) := by
  m3ring

/-- K³ = −K for the hat of a unit vector.  "Unit" is written `u.x ^ 2 + u.y ^ 2 + u.z ^ 2 - 1 = 0` in the statements
    about `rod`, `exp3`, `log3`: the form in which a `linear_combination` certificate takes it as a multiplier.
    Statements about screws say `norm3 u = 1` (`Rot.unit_of_norm3`, `Rot.norm3_of_unit`, `Rot.unit_of_pos` in
    Lemmas/SO3.lean convert); where only K³ = −K is used of u, that is the hypothesis (it also holds of u = 0). -/
theorem hat_cube (u : V3 ℝ) (hu : u.x ^ 2 + u.y ^ 2 + u.z ^ 2 - 1 = 0) : hat u * hat u * hat u = -hat u := by
  have h : hat u * hat u * hat u = -((u.x ^ 2 + u.y ^ 2 + u.z ^ 2) • hat u) := by
    m3ring
  rw [h, sub_eq_zero.mp hu, one_smul]

end Rot

/-! ### dot and cross product -/
namespace V3

theorem dot_comm (u v : V3 ℝ) : dot u v = dot v u := by
  simp only [dot]; ring
theorem dot_self_nonneg (u : V3 ℝ) : 0 ≤ dot u u :=
  add_nonneg (add_nonneg (mul_self_nonneg _) (mul_self_nonneg _)) (mul_self_nonneg _)
theorem dot_add_right (u v w : V3 ℝ) : dot u (v + w) = dot u v + dot u w := by m3ring
theorem dot_smul_right (k : ℝ) (u v : V3 ℝ) : dot u (k • v) = k * dot u v := by
  m3ring
theorem dot_add_left (u v w : V3 ℝ) : dot (u + v) w = dot u w + dot v w := by
  rw [dot_comm, dot_add_right, dot_comm w, dot_comm w]
theorem dot_smul_left (k : ℝ) (u v : V3 ℝ) : dot (k • u) v = k * dot u v := by
  rw [dot_comm, dot_smul_right, dot_comm]
theorem dot_T_mulVec (A : M3 ℝ) (u v : V3 ℝ) : dot (A.T.mulVec u) v = dot u (A.mulVec v) := by m3ring
theorem dot_cross (a b c : V3 ℝ) : dot a (cross b c) = dot (cross c a) b := by m3ring
theorem cross_sub_left (u v w : V3 ℝ) : cross (u - v) w = cross u w - cross v w := by m3ring
theorem cross_smul_right (k : ℝ) (u v : V3 ℝ) : cross u (k • v) = k • cross u v := by
  m3ring
/-- also for k = 0 -/
theorem cross_sdiv_self (v : V3 ℝ) (k : ℝ) : cross v (sdiv v k) = 0 := by
  m3ring
theorem sdiv_neg (v : V3 ℝ) (k : ℝ) : sdiv (-v) k = -sdiv v k := by m3ring

end V3

/-! ### `V6 ℝ` is the ℝ-module V3 × V3; the pairing `V6.dot` is a symmetric bilinear form -/

noncomputable instance : Zero (V6 ℝ) := ⟨⟨0, 0⟩⟩
noncomputable instance : Neg (V6 ℝ) := ⟨fun u => ⟨-u.a, -u.b⟩⟩

noncomputable instance : AddCommGroup (V6 ℝ) where
  add := V6.add
  sub := V6.sub
  add_assoc u v w := V6.ext (add_assoc u.a v.a w.a) (add_assoc u.b v.b w.b)
  zero_add u := V6.ext (zero_add u.a) (zero_add u.b)
  add_zero u := V6.ext (add_zero u.a) (add_zero u.b)
  add_comm u v := V6.ext (add_comm u.a v.a) (add_comm u.b v.b)
  neg_add_cancel u := V6.ext (neg_add_cancel u.a) (neg_add_cancel u.b)
  sub_eq_add_neg u v := V6.ext (sub_eq_add_neg u.a v.a) (sub_eq_add_neg u.b v.b)
  nsmul := nsmulRec
  zsmul := zsmulRec

noncomputable instance : SMul ℝ (V6 ℝ) := ⟨V6.smul⟩

noncomputable instance : Module ℝ (V6 ℝ) where
  one_smul u := V6.ext (one_smul ℝ u.a) (one_smul ℝ u.b)
  mul_smul x y u := V6.ext (mul_smul x y u.a) (mul_smul x y u.b)
  smul_zero x := V6.ext (smul_zero x) (smul_zero x)
  smul_add x u v := V6.ext (smul_add x u.a v.a) (smul_add x u.b v.b)
  add_smul x y u := V6.ext (add_smul x y u.a) (add_smul x y u.b)
  zero_smul u := V6.ext (zero_smul ℝ u.a) (zero_smul ℝ u.b)

namespace V6
theorem smul_eq (k : ℝ) (v : V6 ℝ) : V6.smul k v = k • v := rfl
theorem sdiv_eq_smul (v : V6 ℝ) (k : ℝ) : V6.sdiv v k = (1 / k) • v :=
  V6.ext (V3.sdiv_eq_smul v.a k) (V3.sdiv_eq_smul v.b k)
theorem mk_zero : (⟨⟨0, 0, 0⟩, ⟨0, 0, 0⟩⟩ : V6 ℝ) = 0 := by rw [V3.mk_zero]; rfl
@[simp] theorem add_a (u v : V6 ℝ) : (u + v).a = u.a + v.a := rfl
@[simp] theorem add_b (u v : V6 ℝ) : (u + v).b = u.b + v.b := rfl
@[simp] theorem smul_a (k : ℝ) (u : V6 ℝ) : (k • u).a = k • u.a := rfl
@[simp] theorem smul_b (k : ℝ) (u : V6 ℝ) : (k • u).b = k • u.b := rfl

theorem dot_comm (u v : V6 ℝ) : dot u v = dot v u := by
  simp only [dot, V3.dot_comm u.a, V3.dot_comm u.b]
theorem dot_add_right (u v w : V6 ℝ) : dot u (v + w) = dot u v + dot u w := by
  simp only [dot, add_a, add_b, V3.dot_add_right]; ring
theorem dot_smul_right (k : ℝ) (u v : V6 ℝ) : dot u (k • v) = k * dot u v := by
  simp only [dot, smul_a, smul_b, V3.dot_smul_right]; ring
theorem dot_add_left (u v w : V6 ℝ) : dot (u + v) w = dot u w + dot v w := by
  rw [dot_comm, dot_add_right, dot_comm w, dot_comm w]
theorem dot_smul_left (k : ℝ) (u v : V6 ℝ) : dot (k • u) v = k * dot u v := by
  rw [dot_comm, dot_smul_right, dot_comm]
@[simp] theorem dot_zero_right (u : V6 ℝ) : dot u 0 = 0 := by
  rw [← zero_smul ℝ (0 : V6 ℝ), dot_smul_right, zero_mul]
@[simp] theorem dot_zero_left (u : V6 ℝ) : dot 0 u = 0 := by
  rw [dot_comm, dot_zero_right]
end V6

/-! ### a 6×6 block matrix acts linearly; each law block by block from the 3×3 law of the same name -/

noncomputable def M6.mulVecₗ (A : M6 ℝ) : V6 ℝ →ₗ[ℝ] V6 ℝ where
  toFun := A.mulVec
  map_add' u v := by
    refine V6.ext ?_ ?_ <;> simp only [M6.mulVec, V6.add_a, V6.add_b, mulVec_add] <;> abel
  map_smul' k u := by
    refine V6.ext ?_ ?_ <;> simp only [M6.mulVec, V6.smul_a, V6.smul_b, mulVec_smul, smul_add, RingHom.id_apply]

namespace M6
theorem mulVec_add (A : M6 ℝ) (u v : V6 ℝ) : A.mulVec (u + v) = A.mulVec u + A.mulVec v := A.mulVecₗ.map_add u v
theorem mulVec_sub (A : M6 ℝ) (u v : V6 ℝ) : A.mulVec (u - v) = A.mulVec u - A.mulVec v := A.mulVecₗ.map_sub u v
theorem mulVec_smul (k : ℝ) (A : M6 ℝ) (v : V6 ℝ) : A.mulVec (k • v) = k • A.mulVec v := A.mulVecₗ.map_smul k v
@[simp] theorem mulVec_zero (A : M6 ℝ) : A.mulVec 0 = 0 := A.mulVecₗ.map_zero
theorem mulVec_mul (A B : M6 ℝ) (v : V6 ℝ) : (A * B).mulVec v = A.mulVec (B.mulVec v) := by
  refine V6.ext ?_ ?_ <;>
    simp only [M6.mul_def, M6.mul, M6.mulVec, add_mulVec, BR.mulVec_mul, BR.mulVec_add] <;> abel
theorem one_mulVec (v : V6 ℝ) : (M6.one : M6 ℝ).mulVec v = v := by
  refine V6.ext ?_ ?_ <;>
    simp only [M6.one, M6.mulVec, M3.one_eq, BR.one_mulVec, zero_mulVec, add_zero, zero_add]
theorem T_mul (A B : M6 ℝ) : (A * B).T = B.T * A.T := by
  refine M6.ext ?_ ?_ ?_ ?_ <;> simp only [M6.mul_def, M6.mul, M6.T, Rot.T_add, Rot.T_mul]
theorem T_one : (M6.one : M6 ℝ).T = M6.one := rfl
theorem dot_T_mulVec (A : M6 ℝ) (u v : V6 ℝ) : V6.dot (A.T.mulVec u) v = V6.dot u (A.mulVec v) := by
  simp only [V6.dot, M6.T, M6.mulVec, V3.dot_add_left, V3.dot_add_right, V3.dot_T_mulVec]
  ring
end M6

/-! ### homogeneous matrices: product and action on points, by blocks

  A `T4` holds the top three rows of a 4×4 matrix.  The model uses it for rigid transforms (bottom row 0 0 0 1) and
  for elements of se(3) and derivatives (bottom row 0); `T4.mul` and `T4.act` are the product and action of the
  first kind, so a product with a bottom-row-0 factor is written out where it occurs (`C01.conj`, `C06D.gt`). -/
namespace T4

theorem mul_R (A B : T4 ℝ) : (A * B).R = A.R * B.R := rfl
theorem mul_p (A B : T4 ℝ) : (A * B).p = A.act B.p := rfl
theorem act_def (A : T4 ℝ) (v : V3 ℝ) : A.act v = A.R.mulVec v + A.p := rfl
theorem act_mul (A B : T4 ℝ) (v : V3 ℝ) : (A * B).act v = A.act (B.act v) := by
  simp only [act_def, mul_R, mul_p, mulVec_mul, mulVec_add, add_assoc]
theorem act_one (v : V3 ℝ) : (T4.one : T4 ℝ).act v = v := by
  show (1 : M3 ℝ).mulVec v + (0 : V3 ℝ) = v
  rw [one_mulVec, add_zero]
theorem act_zero (A : T4 ℝ) : A.act 0 = A.p := by rw [act_def, mulVec_zero, zero_add]
theorem act_sub_act (A : T4 ℝ) (u v : V3 ℝ) : A.act u - A.act v = A.R.mulVec (u - v) := by
  rw [act_def, act_def, mulVec_sub, add_sub_add_right_eq_sub]

end T4

namespace Rot

theorem T4_mul_assoc (A B C : T4 ℝ) : A * B * C = A * (B * C) :=
  T4.ext (mul_assoc A.R B.R C.R) (T4.act_mul A B C.p)
theorem T4_one_mul (A : T4 ℝ) : T4.one * A = A := T4.ext (one_mul A.R) (T4.act_one A.p)
theorem T4_mul_one (A : T4 ℝ) : A * T4.one = A := T4.ext (mul_one A.R) (T4.act_zero A)

end Rot
end BR
