/-
  SE(3): the inverse of a rigid transform, the adjoint representation, `MatrixExp6` in closed form for a unit screw,
  the exponential as a one-parameter group, its conjugation by a rigid transform, and the base change of a chain
  of joints.  (`MatrixLog6` is treated where it is needed, in Props/C01.lean.)
-/
import BR.Lemmas.Exp3

namespace BR.Rot
open BR.MR

/-! ### `TransInv` -/

theorem transInv_R (T : T4 ℝ) : (transInv T).R = T.R.T := rfl
theorem transInv_p (T : T4 ℝ) : (transInv T).p = -(T.R.T.mulVec T.p) := by
  simp only [transInv, V3.smul_eq, ofNat_real_one, neg_one_smul]
theorem transInv_act (T : T4 ℝ) (v : V3 ℝ) : (transInv T).act v = T.R.T.mulVec (v - T.p) := by
  rw [T4.act_def, transInv_R, transInv_p, mulVec_sub, sub_eq_add_neg]

theorem transInv_isRot {T : T4 ℝ} (h : IsRot T.R) : IsRot (transInv T).R := isRot_T h

theorem transInv_mul (T : T4 ℝ) (h : T.R.T * T.R = M3.one) : transInv T * T = T4.one :=
  T4.ext h (by rw [T4.mul_p, transInv_act, sub_self, mulVec_zero]; rfl)

theorem mul_transInv (T : T4 ℝ) (h : T.R * T.R.T = M3.one) : T * transInv T = T4.one :=
  T4.ext h (by
    rw [T4.mul_p, T4.act_def, transInv_p, mulVec_neg, ← mulVec_mul, h, M3.one_eq, one_mulVec, neg_add_cancel]; rfl)

/-- only the left factor needs an orthonormal rotation block -/
theorem transInv_mul_rev (A B : T4 ℝ) (hA : A.R.T * A.R = M3.one) :
    transInv (A * B) = transInv B * transInv A := by
  refine T4.ext (T_mul A.R B.R) ?_
  rw [T4.mul_p, transInv_act, transInv_p, transInv_p, T4.mul_R, T4.mul_p, T4.act_def, T_mul, mulVec_mul,
    mulVec_add, ← mulVec_mul A.R.T, hA, M3.one_eq, one_mulVec, mulVec_add, mulVec_sub, mulVec_neg]
  abel

theorem transInv_transInv (T : T4 ℝ) (h : T.R * T.R.T = M3.one) : transInv (transInv T) = T :=
  T4.ext (T_T T.R) (by
    rw [transInv_p, transInv_R, transInv_p, T_T, mulVec_neg, ← mulVec_mul, h, M3.one_eq, one_mulVec, neg_neg])

theorem transInv_mul_cancel_left {T : T4 ℝ} (h : IsRot T.R) (X : T4 ℝ) : transInv T * (T * X) = X := by
  rw [← T4_mul_assoc, transInv_mul T h.1, T4_one_mul]
theorem mul_transInv_cancel_left {T : T4 ℝ} (h : IsRot T.R) (X : T4 ℝ) : T * (transInv T * X) = X := by
  rw [← T4_mul_assoc, mul_transInv T (isRot_inv h).1, T4_one_mul]
theorem mul_transInv_cancel_right {T : T4 ℝ} (h : IsRot T.R) (X : T4 ℝ) : X * T * transInv T = X := by
  rw [T4_mul_assoc, mul_transInv T (isRot_inv h).1, T4_mul_one]

/-! ### the adjoint representation -/

theorem adjoint_mulVec (T : T4 ℝ) (V : V6 ℝ) :
    (adjoint T).mulVec V = ⟨T.R.mulVec V.a, (hat T.p * T.R).mulVec V.a + T.R.mulVec V.b⟩ := by
  simp only [adjoint, M6.mulVec, zero_mulVec, add_zero]

theorem adjoint_one : adjoint (T4.one : T4 ℝ) = M6.one := by
  show (⟨M3.one, M3.zero, hat V3.zero * M3.one, M3.one⟩ : M6 ℝ) = ⟨M3.one, M3.zero, M3.zero, M3.one⟩
  rw [V3.zero_eq, hat_zero, zero_mul]; rfl

theorem hat_rot (R : M3 ℝ) (h : IsRot R) (v : V3 ℝ) : hat (R.mulVec v) * R = R * hat v := by
  rw [hat_conj R h, mul_assoc, h.1, M3.one_eq, mul_one]

/-- by blocks; the lower left one is `[R₁p₂ + p₁] R₁R₂ = [p₁]R₁R₂ + R₁[p₂]R₂` (`hat_rot`) -/
theorem adjoint_mul (T1 T2 : T4 ℝ) (h1 : IsRot T1.R) : adjoint (T1 * T2) = adjoint T1 * adjoint T2 := by
  have e : hat (T1.R.mulVec T2.p + T1.p) * (T1.R * T2.R) = hat T1.p * T1.R * T2.R + T1.R * (hat T2.p * T2.R) := by
    rw [hat_add, add_mul, ← mul_assoc, hat_rot T1.R h1, mul_assoc T1.R, ← mul_assoc (hat T1.p), add_comm]
  -- in the other three blocks only products with the zero block drop out
  simp only [adjoint, M6.mul_def, M6.mul, T4.mul_R, T4.mul_p, T4.act_def, M3.zero_eq, mul_zero, zero_mul, add_zero,
    zero_add, e]

theorem adjoint_one_mulVec (V : V6 ℝ) : (adjoint (T4.one : T4 ℝ)).mulVec V = V := by
  rw [adjoint_one, M6.one_mulVec]

theorem adjoint_mul_mulVec (A B : T4 ℝ) (hA : IsRot A.R) (V : V6 ℝ) :
    (adjoint (A * B)).mulVec V = (adjoint A).mulVec ((adjoint B).mulVec V) := by
  rw [adjoint_mul A B hA, M6.mulVec_mul]

/-! ### `MatrixExp6` in closed form -/

/-- the "G" matrix of `MatrixExp6` -/
noncomputable def Gmat (K : M3 ℝ) (θ : ℝ) : M3 ℝ :=
  θ • (1 : M3 ℝ) + (1 - Real.cos θ) • K + (θ - Real.sin θ) • (K * K)

theorem Gmat_eq_kpoly (K : M3 ℝ) (θ : ℝ) : Gmat K θ = kpoly K θ (1 - Real.cos θ) (θ - Real.sin θ) := rfl

theorem Gmat_neg (K : M3 ℝ) (θ : ℝ) : Gmat (-K) (-θ) = -Gmat K θ := by
  rw [Gmat_eq_kpoly, Gmat_eq_kpoly, kpoly_neg_arg, kpoly_neg, Real.cos_neg, Real.sin_neg]
  congr 1; ring

theorem exp6_rotating (V : V6 ℝ) (h : ¬ nearZero (norm3 V.a)) :
    matrixExp6 (hat6 V) =
      ⟨matrixExp3 (hat V.a), V3.sdiv ((Gmat (M3.sdiv (hat V.a) (norm3 V.a)) (norm3 V.a)).mulVec V.b) (norm3 V.a)⟩ := by
  unfold matrixExp6
  simp only [hat6, vee_hat, if_neg h, ofNat_real_one, cos_real, sin_real, Gmat]
  rfl

theorem exp6_translating (V : V6 ℝ) (h : nearZero (norm3 V.a)) : matrixExp6 (hat6 V) = ⟨M3.one, V.b⟩ := by
  unfold matrixExp6
  simp only [hat6, vee_hat, if_pos h]

/-- the rotation block of `MatrixExp6` is `MatrixExp3` of the angular part (last row 0 0 0 1 by the `T4`
    representation, i.e. by construction in `MatrixExp6`) -/
theorem exp6_R (V : V6 ℝ) : (matrixExp6 (hat6 V)).R = matrixExp3 (hat V.a) := by
  by_cases h : nearZero (norm3 V.a)
  · rw [exp6_translating V h, exp3_small V.a h]
  · rw [exp6_rotating V h]

theorem exp6_isRot (V : V6 ℝ) : IsRot (matrixExp6 (hat6 V)).R := by
  rw [exp6_R]; exact exp3_isRot _

/-- what `MatrixExp6` computes for θ times a unit screw (u, v), outside the cut-off (`exp6_unit`) -/
noncomputable def screwExp (u v : V3 ℝ) (θ : ℝ) : T4 ℝ :=
  ⟨rod u (Real.sin θ) (Real.cos θ), (Gmat (hat u) θ).mulVec v⟩

theorem exp6_unit_pos (u v : V3 ℝ) (hu : norm3 u = 1) (θ : ℝ) (hθ : (1e-6 : ℝ) ≤ θ) :
    matrixExp6 (hat6 ⟨θ • u, θ • v⟩) = screwExp u v θ := by
  have hpos := pos_of_cutoff_le hθ
  have hn : norm3 (θ • u) = θ := by rw [norm3_smul_unit hu, abs_of_pos hpos]
  have hnz : ¬ nearZero (norm3 (⟨θ • u, θ • v⟩ : V6 ℝ).a) := by rw [hn]; exact not_nearZero_of_le _ hθ
  rw [exp6_rotating _ hnz, exp3_eq_rod _ hnz, hn, ← hat_sdiv, V3.sdiv_smul_cancel hpos.ne', mulVec_smul,
    V3.sdiv_smul_cancel hpos.ne']
  rfl

theorem screwExp_neg (u v : V3 ℝ) (θ : ℝ) : screwExp (-u) (-v) (-θ) = screwExp u v θ := by
  rw [screwExp, screwExp, Real.sin_neg, Real.cos_neg, rod_neg, hat_neg, Gmat_neg, neg_mulVec, mulVec_neg, neg_neg]

theorem exp6_unit (u v : V3 ℝ) (hu : norm3 u = 1) (θ : ℝ) (hθ : (1e-6 : ℝ) ≤ |θ|) :
    matrixExp6 (hat6 ⟨θ • u, θ • v⟩) = screwExp u v θ := by
  rcases le_or_gt 0 θ with h | h
  · rw [abs_of_nonneg h] at hθ
    exact exp6_unit_pos u v hu θ hθ
  · -- θ·(u, v) = (−θ)·(−u, −v)
    rw [abs_of_neg h] at hθ
    have := exp6_unit_pos (-u) (-v) (by rw [norm3_neg, hu]) (-θ) hθ
    rwa [neg_smul_neg, neg_smul_neg, screwExp_neg] at this

theorem unit_decomp (V : V6 ℝ) (h : (1e-6 : ℝ) ≤ norm3 V.a) :
    ∃ (u v : V3 ℝ) (φ : ℝ), norm3 u = 1 ∧ (1e-6 : ℝ) ≤ φ ∧ V = ⟨φ • u, φ • v⟩ := by
  have hpos := pos_of_cutoff_le h
  refine ⟨(1 / norm3 V.a) • V.a, (1 / norm3 V.a) • V.b, norm3 V.a, ?_, h, ?_⟩
  · rw [norm3_smul, abs_of_pos (one_div_pos.mpr hpos), one_div_mul_cancel hpos.ne']
  · rw [smul_smul, smul_smul, mul_one_div_cancel hpos.ne', one_smul, one_smul]

/-! ### conjugation by a rigid transform -/

/-- `[Ad(T) V] = T·[V]·T⁻¹`; the right side is the product of the rigid `T`, the bottom-row-0 matrix `[V]` and `T⁻¹`,
    by blocks -/
theorem hat6_adjoint_mulVec (T : T4 ℝ) (h : IsRot T.R) (V : V6 ℝ) :
    hat6 ((adjoint T).mulVec V) =
      ⟨T.R * hat V.a * (transInv T).R, (T.R * hat V.a).mulVec (transInv T).p + T.R.mulVec V.b⟩ := by
  rw [adjoint_mulVec]
  refine T4.ext (hat_conj T.R h V.a) ?_
  show (hat T.p * T.R).mulVec V.a + T.R.mulVec V.b = (T.R * hat V.a).mulVec (transInv T).p + T.R.mulVec V.b
  -- R[ω](−Rᵀp) = −[Rω]p = [p]Rω
  rw [transInv_p, mulVec_neg, ← mulVec_mul, ← hat_conj T.R h, ← hat_mulVec_anticomm, mulVec_mul]

theorem Gmat_conj (R : M3 ℝ) (hR : IsRot R) (K : M3 ℝ) (θ : ℝ) :
    Gmat (R * K * R.T) θ = R * Gmat K θ * R.T :=
  kpoly_conj R R.T K (isRot_inv hR).1 (isRot_inv hR).2 _ _ _

theorem Gmat_mul_K (u : V3 ℝ) (θ : ℝ) (hu : u.x ^ 2 + u.y ^ 2 + u.z ^ 2 - 1 = 0) :
    Gmat (hat u) θ * hat u = rod u (Real.sin θ) (Real.cos θ) - 1 := by
  rw [rod_eq]
  unfold Gmat
  simp only [add_mul, smul_mul_assoc, one_mul, hat_cube u hu]
  rw [smul_neg, sub_smul θ]
  abel

theorem conj_p (T X : T4 ℝ) :
    (T * X * transInv T).p = T.R.mulVec (X.p - X.R.mulVec (T.R.T.mulVec T.p)) + T.p := by
  rw [T4.mul_p, T4.act_mul, transInv_p, T4.act_def X, mulVec_neg, neg_add_eq_sub, T4.act_def]

/-- **exp6 [Ad_T V] = T · exp6 [V] · T⁻¹** for every rigid T, whenever the angular part of V is zero
    or at least the 1e-6 cut-off (inside the band the code's translation-only branch breaks the identity
    by up to 1e-6·|p|, which the falsifier measures). -/
theorem exp6_conj (T : T4 ℝ) (hR : IsRot T.R) (V : V6 ℝ)
    (hω : V.a = 0 ∨ (1e-6 : ℝ) ≤ norm3 V.a) :
    matrixExp6 (hat6 ((adjoint T).mulVec V)) = T * matrixExp6 (hat6 V) * transInv T := by
  obtain ⟨h1, h2⟩ := isRot_inv hR
  obtain ⟨R, p⟩ := T
  obtain ⟨ω, v⟩ := V
  rw [adjoint_mulVec]
  rcases hω with rfl | hbig
  · -- pure translation.  The two twists are written out: given as `_`, they are found by unifying
    -- `nearZero (norm3 (V6.a ?V))` with `nearZero (norm3 0)`, which costs twenty times the rest of this proof
    rw [mulVec_zero, mulVec_zero, zero_add, exp6_translating ⟨0, R.mulVec v⟩ nearZero_norm3_zero,
      exp6_translating ⟨0, v⟩ nearZero_norm3_zero]
    refine T4.ext ?_ ?_
    · show M3.one = R * M3.one * R.T
      rw [M3.one_eq, mul_one, h1]
    · rw [conj_p]
      show R.mulVec v = R.mulVec (v - (1 : M3 ℝ).mulVec (R.T.mulVec p)) + p
      rw [one_mulVec, mulVec_sub, mulVec_T_mulVec hR, sub_add_cancel]
  · -- ω = θ u with u a unit vector, θ ≥ 1e-6
    obtain ⟨u, v', θ, hu, hθ, hV⟩ := unit_decomp ⟨ω, v⟩ hbig
    obtain ⟨rfl, rfl⟩ := V6.mk.inj hV
    -- Ad_T(θ·(u, v')) = θ·(Ru, [p]Ru + Rv') is again θ times a unit screw, so both sides are `screwExp`
    have hE := exp6_unit_pos (R.mulVec u) ((hat p * R).mulVec u + R.mulVec v') (by rw [norm3_rot R hR, hu]) θ hθ
    rw [smul_add, ← mulVec_smul, ← mulVec_smul, ← mulVec_smul] at hE
    rw [hE, exp6_unit_pos u v' hu θ hθ]
    refine T4.ext (rod_conj R hR u _ _) ?_
    rw [conj_p]
    show (Gmat (hat (R.mulVec u)) θ).mulVec ((hat p * R).mulVec u + R.mulVec v') =
      R.mulVec ((Gmat (hat u) θ).mulVec v' - (rod u (Real.sin θ) (Real.cos θ)).mulVec (R.T.mulVec p)) + p
    -- Rᵀ[p]R u = [Rᵀp] u = −[u] Rᵀp, and G [u] = E − 1
    have hp := mulVec_T_mulVec hR p
    have e : R.T.mulVec ((hat p * R).mulVec u) = -((hat u).mulVec (R.T.mulVec p)) := by
      have hc := hat_conj R.T (isRot_T hR) p
      rw [T_T] at hc
      rw [← mulVec_mul, ← mul_assoc, ← hc, hat_mulVec_anticomm]
    generalize R.T.mulVec p = w at hp e ⊢
    rw [hat_conj R hR, Gmat_conj R hR, mulVec_mul, mulVec_mul, mulVec_add, e, ← mulVec_mul R.T R, h2, one_mulVec,
      mulVec_add, mulVec_neg, ← mulVec_mul _ (hat u), Gmat_mul_K u θ (unit_of_norm3 hu), sub_mulVec, one_mulVec]
    calc R.mulVec (-((rod u (Real.sin θ) (Real.cos θ)).mulVec w - w) + (Gmat (hat u) θ).mulVec v')
        = R.mulVec ((Gmat (hat u) θ).mulVec v' - (rod u (Real.sin θ) (Real.cos θ)).mulVec w + w) := by
          congr 1; abel
      _ = _ := by rw [mulVec_add, hp]

/-! ### the exponential as a one-parameter group -/

/-! `screwExp u v` is a one-parameter group that fixes its own screw (u, v); all that is used of u is [u]³ = −[u] -/

theorem screwExp_zero (u v : V3 ℝ) : screwExp u v 0 = T4.one := by
  rw [screwExp, Gmat_eq_kpoly, Real.sin_zero, Real.cos_zero, rod_zero_one, sub_self, sub_self, kpoly_zero,
    ← M3.zero_eq, zero_mulVec]
  rfl

/-- on the coefficients of 1, K, K² this is the addition theorem of sin and cos -/
theorem screwExp_mul (u v : V3 ℝ) (h3 : hat u * hat u * hat u = -hat u) (a b : ℝ) :
    screwExp u v a * screwExp u v b = screwExp u v (a + b) := by
  refine T4.ext ?_ ?_
  · show rod u (Real.sin a) (Real.cos a) * rod u (Real.sin b) (Real.cos b) = rod u (Real.sin (a + b)) (Real.cos (a + b))
    simp only [rod_eq_kpoly, kpoly_mul _ h3, Real.sin_add, Real.cos_add]
    congr 1 <;> ring
  · show (rod u (Real.sin a) (Real.cos a)).mulVec ((Gmat (hat u) b).mulVec v) + (Gmat (hat u) a).mulVec v =
      (Gmat (hat u) (a + b)).mulVec v
    simp only [rod_eq_kpoly, Gmat_eq_kpoly, ← mulVec_mul, ← add_mulVec, kpoly_mul _ h3, kpoly_add, Real.sin_add, Real.cos_add]
    congr 2 <;> ring

theorem adjoint_screwExp_self (u v : V3 ℝ) (h3 : hat u * hat u * hat u = -hat u) (θ : ℝ) :
    (adjoint (screwExp u v θ)).mulVec ⟨u, v⟩ = ⟨u, v⟩ := by
  have hR : (rod u (Real.sin θ) (Real.cos θ)).mulVec u = u := by rw [rod_eq_kpoly, kpoly_mulVec_axis, one_smul]
  rw [adjoint_mulVec]
  show (⟨(rod u (Real.sin θ) (Real.cos θ)).mulVec u,
    (hat ((Gmat (hat u) θ).mulVec v) * rod u (Real.sin θ) (Real.cos θ)).mulVec u + (rod u (Real.sin θ) (Real.cos θ)).mulVec v⟩ : V6 ℝ) = _
  -- [p] R u = [p] u = −[u] p = −[u] G v, and R − [u] G = 1
  rw [mulVec_mul, hR, hat_mulVec_anticomm, ← mulVec_mul, Gmat_eq_kpoly, K_mul_kpoly _ h3, ← neg_mulVec, ← add_mulVec,
    rod_eq_kpoly, kpoly_neg, kpoly_add]
  have e : kpoly (hat u) (-0 + 1) (-(θ - (θ - Real.sin θ)) + Real.sin θ) (-(1 - Real.cos θ) + (1 - Real.cos θ)) =
      kpoly (hat u) 1 0 0 := by congr 1 <;> ring
  rw [e, kpoly_one, one_mulVec]

/-- no unit axis is asked for: `exp6_unit` takes the angle with its sign -/
theorem exp6_neg_mul (V : V6 ℝ) (h : V.a = 0 ∨ (1e-6 : ℝ) ≤ norm3 V.a) :
    matrixExp6 (hat6 (-V)) * matrixExp6 (hat6 V) = T4.one := by
  rcases h with h0 | hbig
  · rw [exp6_translating V (by rw [h0]; exact nearZero_norm3_zero),
      exp6_translating (-V) (by show nearZero (norm3 (-V.a)); rw [h0, neg_zero]; exact nearZero_norm3_zero)]
    refine T4.ext (one_mul (1 : M3 ℝ)) ?_
    show (1 : M3 ℝ).mulVec V.b + -V.b = 0
    rw [one_mulVec, add_neg_cancel]
  · obtain ⟨u, v, φ, hu, hφ, rfl⟩ := unit_decomp V hbig
    show matrixExp6 (hat6 ⟨-(φ • u), -(φ • v)⟩) * _ = _
    rw [← neg_smul, ← neg_smul, exp6_unit_pos u v hu φ hφ,
      exp6_unit u v hu (-φ) (by rw [abs_neg]; exact hφ.trans (le_abs_self φ)),
      screwExp_mul u v (hat_cube u (unit_of_norm3 hu)), neg_add_cancel, screwExp_zero]

theorem adjoint_exp6_self (V : V6 ℝ) (h : V.a = 0 ∨ (1e-6 : ℝ) ≤ norm3 V.a) :
    (adjoint (matrixExp6 (hat6 V))).mulVec V = V := by
  rcases h with h0 | hbig
  · obtain ⟨w, v⟩ := V
    subst h0
    rw [exp6_translating ⟨0, v⟩ nearZero_norm3_zero, adjoint_mulVec]
    rw [mulVec_zero, mulVec_zero, M3.one_eq, one_mulVec, zero_add]
  · obtain ⟨u, v, φ, hu, hφ, rfl⟩ := unit_decomp V hbig
    have e : (⟨φ • u, φ • v⟩ : V6 ℝ) = φ • ⟨u, v⟩ := rfl
    rw [exp6_unit_pos u v hu φ hφ, e, M6.mulVec_smul,
      adjoint_screwExp_self u v (hat_cube u (unit_of_norm3 hu))]

/-! ### chains of joints -/

/-- a joint whose scaled screw has angular part zero (prismatic, or θ = 0) or of norm at least the 1e-6 cut-off -/
def JointOK (j : V6 ℝ × ℝ) : Prop := (V6.smul j.2 j.1).a = 0 ∨ (1e-6 : ℝ) ≤ norm3 (V6.smul j.2 j.1).a

theorem JointOK.neg {S : V6 ℝ} {θ : ℝ} (h : JointOK (S, θ)) : JointOK (S, -θ) := by
  have e : (V6.smul (-θ) S).a = -(V6.smul θ S).a := neg_smul θ S.a
  unfold JointOK at h ⊢
  rw [e, neg_eq_zero, norm3_neg]
  exact h

/-- **base change of a chain**: transforming every screw by Ad(B) and the home by B transforms the whole
    forward-kinematics map by B (induction over the joints) -/
theorem fkinSpace_conj (B M : T4 ℝ) (hB : IsRot B.R) (joints : List (V6 ℝ × ℝ)) (hj : ∀ j ∈ joints, JointOK j) :
    fkinSpace (B * M) (joints.map fun j => ((adjoint B).mulVec j.1, j.2)) = B * fkinSpace M joints := by
  induction joints with
  | nil => rfl
  | cons j js ih =>
    obtain ⟨S, θ⟩ := j
    simp only [List.map_cons, fkinSpace]
    rw [ih (fun j hj' => hj j (List.mem_cons_of_mem _ hj')), V6.smul_eq, V6.smul_eq, ← M6.mulVec_smul,
      exp6_conj B hB (θ • S) (hj (S, θ) (by simp)), T4_mul_assoc, T4_mul_assoc,
      transInv_mul_cancel_left hB]

end BR.Rot
