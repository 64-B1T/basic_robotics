/-
  GENERATED by translate/gen_c17.py from the two JIT modules of /repo — do not edit.
  One theorem per integer subscript / constant slice of every @jit kernel: the index lies within the extent
  of the array, given the documented argument shapes, the enclosing loop ranges and simple integer guards.
-/

set_option linter.unusedVariables false

namespace BR.Gen.C17

/-- Normalize line 53: call Norm(v=V) axis 0 -/
theorem Normalize_0   : 3 ≤ 3 := by decide

/-- AngleMod line 58: rad[i] axis 0 -/
theorem AngleMod_0 (i k : Int) (h_k : 0 ≤ k) (h0 : 0 ≤ i) (h1 : i < k) : 0 ≤ i ∧ i < k := by omega

/-- AngleMod line 59: rad[i] axis 0 -/
theorem AngleMod_1 (i k : Int) (h_k : 0 ≤ k) (h0 : 0 ≤ i) (h1 : i < k) : 0 ≤ i ∧ i < k := by omega

/-- AngleMod line 59: rad[i] axis 0 -/
theorem AngleMod_2 (i k : Int) (h_k : 0 ≤ k) (h0 : 0 ≤ i) (h1 : i < k) : 0 ≤ i ∧ i < k := by omega

/-- Norm line 64: v[2] axis 0 -/
theorem Norm_0   : 0 ≤ 2 ∧ 2 < 3 := by decide

/-- Norm line 64: v[2] axis 0 -/
theorem Norm_1   : 0 ≤ 2 ∧ 2 < 3 := by decide

/-- Norm line 64: v[0] axis 0 -/
theorem Norm_2   : 0 ≤ 0 ∧ 0 < 3 := by decide

/-- Norm line 64: v[0] axis 0 -/
theorem Norm_3   : 0 ≤ 0 ∧ 0 < 3 := by decide

/-- Norm line 64: v[1] axis 0 -/
theorem Norm_4   : 0 ≤ 1 ∧ 1 < 3 := by decide

/-- Norm line 64: v[1] axis 0 -/
theorem Norm_5   : 0 ≤ 1 ∧ 1 < 3 := by decide

/-- Norm6 line 71: v[5] axis 0 -/
theorem Norm6_0   : 0 ≤ 5 ∧ 5 < 6 := by decide

/-- Norm6 line 71: v[4] axis 0 -/
theorem Norm6_1   : 0 ≤ 4 ∧ 4 < 6 := by decide

/-- Norm6 line 71: v[3] axis 0 -/
theorem Norm6_2   : 0 ≤ 3 ∧ 3 < 6 := by decide

/-- Norm6 line 71: v[2] axis 0 -/
theorem Norm6_3   : 0 ≤ 2 ∧ 2 < 6 := by decide

/-- Norm6 line 71: v[0] axis 0 -/
theorem Norm6_4   : 0 ≤ 0 ∧ 0 < 6 := by decide

/-- Norm6 line 71: v[1] axis 0 -/
theorem Norm6_5   : 0 ≤ 1 ∧ 1 < 6 := by decide

/-- VecToso3 line 104: omg[1] axis 0 -/
theorem VecToso3_0   : 0 ≤ 1 ∧ 1 < 3 := by decide

/-- VecToso3 line 105: omg[2] axis 0 -/
theorem VecToso3_1   : 0 ≤ 2 ∧ 2 < 3 := by decide

/-- VecToso3 line 106: omg[0] axis 0 -/
theorem VecToso3_2   : 0 ≤ 0 ∧ 0 < 3 := by decide

/-- VecToso3 line 104: omg[2] axis 0 -/
theorem VecToso3_3   : 0 ≤ 2 ∧ 2 < 3 := by decide

/-- VecToso3 line 105: omg[0] axis 0 -/
theorem VecToso3_4   : 0 ≤ 0 ∧ 0 < 3 := by decide

/-- VecToso3 line 106: omg[1] axis 0 -/
theorem VecToso3_5   : 0 ≤ 1 ∧ 1 < 3 := by decide

/-- so3ToVec line 121: so3mat[2][1] axis 0 -/
theorem so3ToVec_0   : 0 ≤ 1 ∧ 1 < 3 := by decide

/-- so3ToVec line 121: so3mat[0][2] axis 0 -/
theorem so3ToVec_1   : 0 ≤ 2 ∧ 2 < 3 := by decide

/-- so3ToVec line 121: so3mat[1][0] axis 0 -/
theorem so3ToVec_2   : 0 ≤ 0 ∧ 0 < 3 := by decide

/-- so3ToVec line 121: so3mat[2] axis 0 -/
theorem so3ToVec_3   : 0 ≤ 2 ∧ 2 < 3 := by decide

/-- so3ToVec line 121: so3mat[0] axis 0 -/
theorem so3ToVec_4   : 0 ≤ 0 ∧ 0 < 3 := by decide

/-- so3ToVec line 121: so3mat[1] axis 0 -/
theorem so3ToVec_5   : 0 ≤ 1 ∧ 1 < 3 := by decide

/-- AxisAng3 line 135: call Normalize(V=expc3) axis 0 -/
theorem AxisAng3_0   : 3 ≤ 3 := by decide

/-- AxisAng3 line 135: call Norm(v=expc3) axis 0 -/
theorem AxisAng3_1   : 3 ≤ 3 := by decide

/-- MatrixExp3 line 150: call so3ToVec(so3mat=so3mat) axis 0 -/
theorem MatrixExp3_0   : 3 ≤ 3 := by decide

/-- MatrixExp3 line 150: call so3ToVec(so3mat=so3mat) axis 1 -/
theorem MatrixExp3_1   : 3 ≤ 3 := by decide

/-- MatrixExp3 line 151: call Norm(v=omgtheta) axis 0 -/
theorem MatrixExp3_2   : 3 ≤ 3 := by decide

/-- MatrixExp3 line 154: AxisAng3(omgtheta)[1] axis 0 -/
theorem MatrixExp3_3   : 0 ≤ 1 ∧ 1 < 2 := by decide

/-- MatrixExp3 line 154: call AxisAng3(expc3=omgtheta) axis 0 -/
theorem MatrixExp3_4   : 3 ≤ 3 := by decide

/-- SafeTrace line 161: sz[0] axis 0 -/
theorem SafeTrace_0   : 0 ≤ 0 ∧ 0 < 2 := by decide

/-- SafeTrace line 161: sz[1] axis 0 -/
theorem SafeTrace_1   : 0 ≤ 1 ∧ 1 < 2 := by decide

/-- SafeTrace line 163: sz[0] axis 0 -/
theorem SafeTrace_2 (a b : Int) (h_a : 0 ≤ a) (h_b : 0 ≤ b) (h0 : a = b) : 0 ≤ 0 ∧ 0 < 2 := by decide

/-- SafeTrace line 164: R[i, i] axis 0 -/
theorem SafeTrace_3 (a b i : Int) (h_a : 0 ≤ a) (h_b : 0 ≤ b) (h0 : a = b) (h1 : 0 ≤ i) (h2 : i < a) : 0 ≤ i ∧ i < a := by omega

/-- SafeTrace line 164: R[i, i] axis 1 -/
theorem SafeTrace_4 (a b i : Int) (h_a : 0 ≤ a) (h_b : 0 ≤ b) (h0 : a = b) (h1 : 0 ≤ i) (h2 : i < a) : 0 ≤ i ∧ i < b := by omega

/-- MatrixLog3 line 191: R[2][2] axis 0 -/
theorem MatrixLog3_0   : 0 ≤ 2 ∧ 2 < 3 := by decide

/-- MatrixLog3 line 191: R[2] axis 0 -/
theorem MatrixLog3_1   : 0 ≤ 2 ∧ 2 < 3 := by decide

/-- MatrixLog3 line 193: R[0][2] axis 0 -/
theorem MatrixLog3_2   : 0 ≤ 2 ∧ 2 < 3 := by decide

/-- MatrixLog3 line 193: R[1][2] axis 0 -/
theorem MatrixLog3_3   : 0 ≤ 2 ∧ 2 < 3 := by decide

/-- MatrixLog3 line 193: R[0] axis 0 -/
theorem MatrixLog3_4   : 0 ≤ 0 ∧ 0 < 3 := by decide

/-- MatrixLog3 line 193: R[1] axis 0 -/
theorem MatrixLog3_5   : 0 ≤ 1 ∧ 1 < 3 := by decide

/-- MatrixLog3 line 193: R[2][2] axis 0 -/
theorem MatrixLog3_6   : 0 ≤ 2 ∧ 2 < 3 := by decide

/-- MatrixLog3 line 192: R[2][2] axis 0 -/
theorem MatrixLog3_7   : 0 ≤ 2 ∧ 2 < 3 := by decide

/-- MatrixLog3 line 193: R[2] axis 0 -/
theorem MatrixLog3_8   : 0 ≤ 2 ∧ 2 < 3 := by decide

/-- MatrixLog3 line 192: R[2] axis 0 -/
theorem MatrixLog3_9   : 0 ≤ 2 ∧ 2 < 3 := by decide

/-- MatrixLog3 line 194: R[1][1] axis 0 -/
theorem MatrixLog3_10   : 0 ≤ 1 ∧ 1 < 3 := by decide

/-- MatrixLog3 line 194: R[1] axis 0 -/
theorem MatrixLog3_11   : 0 ≤ 1 ∧ 1 < 3 := by decide

/-- MatrixLog3 line 196: R[0][1] axis 0 -/
theorem MatrixLog3_12   : 0 ≤ 1 ∧ 1 < 3 := by decide

/-- MatrixLog3 line 196: R[2][1] axis 0 -/
theorem MatrixLog3_13   : 0 ≤ 1 ∧ 1 < 3 := by decide

/-- MatrixLog3 line 196: R[0] axis 0 -/
theorem MatrixLog3_14   : 0 ≤ 0 ∧ 0 < 3 := by decide

/-- MatrixLog3 line 196: R[1][1] axis 0 -/
theorem MatrixLog3_15   : 0 ≤ 1 ∧ 1 < 3 := by decide

/-- MatrixLog3 line 196: R[2] axis 0 -/
theorem MatrixLog3_16   : 0 ≤ 2 ∧ 2 < 3 := by decide

/-- MatrixLog3 line 195: R[1][1] axis 0 -/
theorem MatrixLog3_17   : 0 ≤ 1 ∧ 1 < 3 := by decide

/-- MatrixLog3 line 196: R[1] axis 0 -/
theorem MatrixLog3_18   : 0 ≤ 1 ∧ 1 < 3 := by decide

/-- MatrixLog3 line 195: R[1] axis 0 -/
theorem MatrixLog3_19   : 0 ≤ 1 ∧ 1 < 3 := by decide

/-- MatrixLog3 line 199: R[1][0] axis 0 -/
theorem MatrixLog3_20   : 0 ≤ 0 ∧ 0 < 3 := by decide

/-- MatrixLog3 line 199: R[2][0] axis 0 -/
theorem MatrixLog3_21   : 0 ≤ 0 ∧ 0 < 3 := by decide

/-- MatrixLog3 line 199: R[0][0] axis 0 -/
theorem MatrixLog3_22   : 0 ≤ 0 ∧ 0 < 3 := by decide

/-- MatrixLog3 line 199: R[1] axis 0 -/
theorem MatrixLog3_23   : 0 ≤ 1 ∧ 1 < 3 := by decide

/-- MatrixLog3 line 199: R[2] axis 0 -/
theorem MatrixLog3_24   : 0 ≤ 2 ∧ 2 < 3 := by decide

/-- MatrixLog3 line 198: R[0][0] axis 0 -/
theorem MatrixLog3_25   : 0 ≤ 0 ∧ 0 < 3 := by decide

/-- MatrixLog3 line 199: R[0] axis 0 -/
theorem MatrixLog3_26   : 0 ≤ 0 ∧ 0 < 3 := by decide

/-- MatrixLog3 line 198: R[0] axis 0 -/
theorem MatrixLog3_27   : 0 ≤ 0 ∧ 0 < 3 := by decide

/-- MatrixLog3 line 200: call VecToso3(omg=np.pi * omg) axis 0 -/
theorem MatrixLog3_28   : 3 ≤ 3 := by decide

/-- RpToTrans line 225: omat[0:3, 0:3] axis 0 -/
theorem RpToTrans_0   : 0 ≤ 0 ∧ 0 ≤ 3 ∧ 3 ≤ 4 := by decide

/-- RpToTrans line 225: omat[0:3, 0:3] axis 1 -/
theorem RpToTrans_1   : 0 ≤ 0 ∧ 0 ≤ 3 ∧ 3 ≤ 4 := by decide

/-- RpToTrans line 226: omat[0:3, 3] axis 0 -/
theorem RpToTrans_2   : 0 ≤ 0 ∧ 0 ≤ 3 ∧ 3 ≤ 4 := by decide

/-- RpToTrans line 226: omat[0:3, 3] axis 1 -/
theorem RpToTrans_3   : 0 ≤ 3 ∧ 3 < 4 := by decide

/-- TransToRp line 249: T[0:3, 0:3] axis 0 -/
theorem TransToRp_0   : 0 ≤ 0 ∧ 0 ≤ 3 ∧ 3 ≤ 4 := by decide

/-- TransToRp line 249: T[0:3, 0:3] axis 1 -/
theorem TransToRp_1   : 0 ≤ 0 ∧ 0 ≤ 3 ∧ 3 ≤ 4 := by decide

/-- TransToRp line 249: T[0:3, 3] axis 0 -/
theorem TransToRp_2   : 0 ≤ 0 ∧ 0 ≤ 3 ∧ 3 ≤ 4 := by decide

/-- TransToRp line 249: T[0:3, 3] axis 1 -/
theorem TransToRp_3   : 0 ≤ 3 ∧ 3 < 4 := by decide

/-- TransInv line 270: call TransToRp(T=T) axis 0 -/
theorem TransInv_0   : 4 ≤ 4 := by decide

/-- TransInv line 270: call TransToRp(T=T) axis 1 -/
theorem TransInv_1   : 4 ≤ 4 := by decide

/-- TransInv line 274: rarr[0:3, 0:3] axis 0 -/
theorem TransInv_2   : 0 ≤ 0 ∧ 0 ≤ 3 ∧ 3 ≤ 4 := by decide

/-- TransInv line 274: rarr[0:3, 0:3] axis 1 -/
theorem TransInv_3   : 0 ≤ 0 ∧ 0 ≤ 3 ∧ 3 ≤ 4 := by decide

/-- TransInv line 276: rarr[0:3, 3] axis 0 -/
theorem TransInv_4   : 0 ≤ 0 ∧ 0 ≤ 3 ∧ 3 ≤ 4 := by decide

/-- TransInv line 276: rarr[0:3, 3] axis 1 -/
theorem TransInv_5   : 0 ≤ 3 ∧ 3 < 4 := by decide

/-- VecTose3 line 293: V[0:3] axis 0 -/
theorem VecTose3_0   : 0 ≤ 0 ∧ 0 ≤ 3 ∧ 3 ≤ 6 := by decide

/-- VecTose3 line 294: call VecToso3(omg=arr1) axis 0 -/
theorem VecTose3_1   : 3 ≤ 3 := by decide

/-- VecTose3 line 295: V[3:6] axis 0 -/
theorem VecTose3_2   : 0 ≤ 3 ∧ 3 ≤ 6 ∧ 6 ≤ 6 := by decide

/-- VecTose3 line 297: rarr[0:3, 0:3] axis 0 -/
theorem VecTose3_3   : 0 ≤ 0 ∧ 0 ≤ 3 ∧ 3 ≤ 4 := by decide

/-- VecTose3 line 297: rarr[0:3, 0:3] axis 1 -/
theorem VecTose3_4   : 0 ≤ 0 ∧ 0 ≤ 3 ∧ 3 ≤ 4 := by decide

/-- VecTose3 line 298: rarr[0:3, 3] axis 0 -/
theorem VecTose3_5   : 0 ≤ 0 ∧ 0 ≤ 3 ∧ 3 ≤ 4 := by decide

/-- VecTose3 line 298: rarr[0:3, 3] axis 1 -/
theorem VecTose3_6   : 0 ≤ 3 ∧ 3 < 4 := by decide

/-- VecTose3 line 299: rarr[3, 0:4] axis 0 -/
theorem VecTose3_7   : 0 ≤ 3 ∧ 3 < 4 := by decide

/-- VecTose3 line 299: rarr[3, 0:4] axis 1 -/
theorem VecTose3_8   : 0 ≤ 0 ∧ 0 ≤ 4 ∧ 4 ≤ 4 := by decide

/-- se3ToVec line 315: se3mat[2][1] axis 0 -/
theorem se3ToVec_0   : 0 ≤ 1 ∧ 1 < 4 := by decide

/-- se3ToVec line 315: se3mat[0][2] axis 0 -/
theorem se3ToVec_1   : 0 ≤ 2 ∧ 2 < 4 := by decide

/-- se3ToVec line 315: se3mat[1][0] axis 0 -/
theorem se3ToVec_2   : 0 ≤ 0 ∧ 0 < 4 := by decide

/-- se3ToVec line 315: se3mat[0][3] axis 0 -/
theorem se3ToVec_3   : 0 ≤ 3 ∧ 3 < 4 := by decide

/-- se3ToVec line 315: se3mat[1][3] axis 0 -/
theorem se3ToVec_4   : 0 ≤ 3 ∧ 3 < 4 := by decide

/-- se3ToVec line 315: se3mat[2][3] axis 0 -/
theorem se3ToVec_5   : 0 ≤ 3 ∧ 3 < 4 := by decide

/-- se3ToVec line 315: se3mat[2] axis 0 -/
theorem se3ToVec_6   : 0 ≤ 2 ∧ 2 < 4 := by decide

/-- se3ToVec line 315: se3mat[0] axis 0 -/
theorem se3ToVec_7   : 0 ≤ 0 ∧ 0 < 4 := by decide

/-- se3ToVec line 315: se3mat[1] axis 0 -/
theorem se3ToVec_8   : 0 ≤ 1 ∧ 1 < 4 := by decide

/-- se3ToVec line 315: se3mat[0] axis 0 -/
theorem se3ToVec_9   : 0 ≤ 0 ∧ 0 < 4 := by decide

/-- se3ToVec line 315: se3mat[1] axis 0 -/
theorem se3ToVec_10   : 0 ≤ 1 ∧ 1 < 4 := by decide

/-- se3ToVec line 315: se3mat[2] axis 0 -/
theorem se3ToVec_11   : 0 ≤ 2 ∧ 2 < 4 := by decide

/-- Adjoint line 337: call TransToRp(T=T) axis 0 -/
theorem Adjoint_0   : 4 ≤ 4 := by decide

/-- Adjoint line 337: call TransToRp(T=T) axis 1 -/
theorem Adjoint_1   : 4 ≤ 4 := by decide

/-- Adjoint line 339: call VecToso3(omg=p) axis 0 -/
theorem Adjoint_2   : 3 ≤ 3 := by decide

/-- Adjoint line 340: rarr[0:3, 0:3] axis 0 -/
theorem Adjoint_3   : 0 ≤ 0 ∧ 0 ≤ 3 ∧ 3 ≤ 6 := by decide

/-- Adjoint line 340: rarr[0:3, 0:3] axis 1 -/
theorem Adjoint_4   : 0 ≤ 0 ∧ 0 ≤ 3 ∧ 3 ≤ 6 := by decide

/-- Adjoint line 341: rarr[3:6, 3:6] axis 0 -/
theorem Adjoint_5   : 0 ≤ 3 ∧ 3 ≤ 6 ∧ 6 ≤ 6 := by decide

/-- Adjoint line 341: rarr[3:6, 3:6] axis 1 -/
theorem Adjoint_6   : 0 ≤ 3 ∧ 3 ≤ 6 ∧ 6 ≤ 6 := by decide

/-- Adjoint line 342: rarr[3:6, 0:3] axis 0 -/
theorem Adjoint_7   : 0 ≤ 3 ∧ 3 ≤ 6 ∧ 6 ≤ 6 := by decide

/-- Adjoint line 342: rarr[3:6, 0:3] axis 1 -/
theorem Adjoint_8   : 0 ≤ 0 ∧ 0 ≤ 3 ∧ 3 ≤ 6 := by decide

/-- ScrewToAxis line 361: ret[0:3] axis 0 -/
theorem ScrewToAxis_0   : 0 ≤ 0 ∧ 0 ≤ 3 ∧ 3 ≤ 6 := by decide

/-- ScrewToAxis line 364: ret[3:6] axis 0 -/
theorem ScrewToAxis_1   : 0 ≤ 3 ∧ 3 ≤ 6 ∧ 6 ≤ 6 := by decide

/-- AxisAng6 line 382: call Norm(v=[expc6[0], expc6[1], expc6[2]]) axis 0 -/
theorem AxisAng6_0   : 3 ≤ 3 := by decide

/-- AxisAng6 line 382: expc6[0] axis 0 -/
theorem AxisAng6_1   : 0 ≤ 0 ∧ 0 < 6 := by decide

/-- AxisAng6 line 382: expc6[1] axis 0 -/
theorem AxisAng6_2   : 0 ≤ 1 ∧ 1 < 6 := by decide

/-- AxisAng6 line 382: expc6[2] axis 0 -/
theorem AxisAng6_3   : 0 ≤ 2 ∧ 2 < 6 := by decide

/-- AxisAng6 line 384: call Norm(v=[expc6[3], expc6[4], expc6[5]]) axis 0 -/
theorem AxisAng6_4   : 3 ≤ 3 := by decide

/-- AxisAng6 line 384: expc6[3] axis 0 -/
theorem AxisAng6_5   : 0 ≤ 3 ∧ 3 < 6 := by decide

/-- AxisAng6 line 384: expc6[4] axis 0 -/
theorem AxisAng6_6   : 0 ≤ 4 ∧ 4 < 6 := by decide

/-- AxisAng6 line 384: expc6[5] axis 0 -/
theorem AxisAng6_7   : 0 ≤ 5 ∧ 5 < 6 := by decide

/-- MatrixExp6 line 406: call so3ToVec(so3mat=se3mat[0:3, 0:3]) axis 0 -/
theorem MatrixExp6_0   : 3 ≤ 3 := by decide

/-- MatrixExp6 line 406: call so3ToVec(so3mat=se3mat[0:3, 0:3]) axis 1 -/
theorem MatrixExp6_1   : 3 ≤ 3 := by decide

/-- MatrixExp6 line 406: se3mat[0:3, 0:3] axis 0 -/
theorem MatrixExp6_2   : 0 ≤ 0 ∧ 0 ≤ 3 ∧ 3 ≤ 4 := by decide

/-- MatrixExp6 line 406: se3mat[0:3, 0:3] axis 1 -/
theorem MatrixExp6_3   : 0 ≤ 0 ∧ 0 ≤ 3 ∧ 3 ≤ 4 := by decide

/-- MatrixExp6 line 407: call Norm(v=omgtheta) axis 0 -/
theorem MatrixExp6_4   : 3 ≤ 3 := by decide

/-- MatrixExp6 line 409: se3mat[0:3, 3] axis 0 -/
theorem MatrixExp6_5   : 0 ≤ 0 ∧ 0 ≤ 3 ∧ 3 ≤ 4 := by decide

/-- MatrixExp6 line 409: se3mat[0:3, 3] axis 1 -/
theorem MatrixExp6_6   : 0 ≤ 3 ∧ 3 < 4 := by decide

/-- MatrixExp6 line 409: rarr[0:3, 3] axis 0 -/
theorem MatrixExp6_7   : 0 ≤ 0 ∧ 0 ≤ 3 ∧ 3 ≤ 4 := by decide

/-- MatrixExp6 line 409: rarr[0:3, 3] axis 1 -/
theorem MatrixExp6_8   : 0 ≤ 3 ∧ 3 < 4 := by decide

/-- MatrixExp6 line 412: AxisAng3(omgtheta)[1] axis 0 -/
theorem MatrixExp6_9   : 0 ≤ 1 ∧ 1 < 2 := by decide

/-- MatrixExp6 line 412: call AxisAng3(expc3=omgtheta) axis 0 -/
theorem MatrixExp6_10   : 3 ≤ 3 := by decide

/-- MatrixExp6 line 413: se3mat[0:3, 0:3] axis 0 -/
theorem MatrixExp6_11   : 0 ≤ 0 ∧ 0 ≤ 3 ∧ 3 ≤ 4 := by decide

/-- MatrixExp6 line 413: se3mat[0:3, 0:3] axis 1 -/
theorem MatrixExp6_12   : 0 ≤ 0 ∧ 0 ≤ 3 ∧ 3 ≤ 4 := by decide

/-- MatrixExp6 line 414: call MatrixExp3(so3mat=se3mat[0:3, 0:3]) axis 0 -/
theorem MatrixExp6_13   : 3 ≤ 3 := by decide

/-- MatrixExp6 line 414: call MatrixExp3(so3mat=se3mat[0:3, 0:3]) axis 1 -/
theorem MatrixExp6_14   : 3 ≤ 3 := by decide

/-- MatrixExp6 line 414: se3mat[0:3, 0:3] axis 0 -/
theorem MatrixExp6_15   : 0 ≤ 0 ∧ 0 ≤ 3 ∧ 3 ≤ 4 := by decide

/-- MatrixExp6 line 414: se3mat[0:3, 0:3] axis 1 -/
theorem MatrixExp6_16   : 0 ≤ 0 ∧ 0 ≤ 3 ∧ 3 ≤ 4 := by decide

/-- MatrixExp6 line 415: se3mat[0:3, 3] axis 0 -/
theorem MatrixExp6_17   : 0 ≤ 0 ∧ 0 ≤ 3 ∧ 3 ≤ 4 := by decide

/-- MatrixExp6 line 415: se3mat[0:3, 3] axis 1 -/
theorem MatrixExp6_18   : 0 ≤ 3 ∧ 3 < 4 := by decide

/-- MatrixExp6 line 417: rmat[0:3, 0:3] axis 0 -/
theorem MatrixExp6_19   : 0 ≤ 0 ∧ 0 ≤ 3 ∧ 3 ≤ 4 := by decide

/-- MatrixExp6 line 417: rmat[0:3, 0:3] axis 1 -/
theorem MatrixExp6_20   : 0 ≤ 0 ∧ 0 ≤ 3 ∧ 3 ≤ 4 := by decide

/-- MatrixExp6 line 418: rmat[0:3, 3] axis 0 -/
theorem MatrixExp6_21   : 0 ≤ 0 ∧ 0 ≤ 3 ∧ 3 ≤ 4 := by decide

/-- MatrixExp6 line 418: rmat[0:3, 3] axis 1 -/
theorem MatrixExp6_22   : 0 ≤ 3 ∧ 3 < 4 := by decide

/-- LocalToGlobal line 429: reference[0:3] axis 0 -/
theorem LocalToGlobal_0   : 0 ≤ 0 ∧ 0 ≤ 3 ∧ 3 ≤ 6 := by decide

/-- LocalToGlobal line 430: reference[3:6] axis 0 -/
theorem LocalToGlobal_1   : 0 ≤ 3 ∧ 3 ≤ 6 ∧ 6 ≤ 6 := by decide

/-- LocalToGlobal line 431: rel[0:3] axis 0 -/
theorem LocalToGlobal_2   : 0 ≤ 0 ∧ 0 ≤ 3 ∧ 3 ≤ 6 := by decide

/-- LocalToGlobal line 432: rel[3:6] axis 0 -/
theorem LocalToGlobal_3   : 0 ≤ 3 ∧ 3 ≤ 6 ∧ 6 ≤ 6 := by decide

/-- LocalToGlobal line 433: call MatrixExp3(so3mat=VecToso3(refRod.reshape(3))) axis 0 -/
theorem LocalToGlobal_4   : 3 ≤ 3 := by decide

/-- LocalToGlobal line 433: call MatrixExp3(so3mat=VecToso3(refRod.reshape(3))) axis 1 -/
theorem LocalToGlobal_5   : 3 ≤ 3 := by decide

/-- LocalToGlobal line 433: call VecToso3(omg=refRod.reshape(3)) axis 0 -/
theorem LocalToGlobal_6   : 3 ≤ 3 := by decide

/-- LocalToGlobal line 435: call MatrixExp3(so3mat=VecToso3(relRod.reshape(3))) axis 0 -/
theorem LocalToGlobal_7   : 3 ≤ 3 := by decide

/-- LocalToGlobal line 435: call MatrixExp3(so3mat=VecToso3(relRod.reshape(3))) axis 1 -/
theorem LocalToGlobal_8   : 3 ≤ 3 := by decide

/-- LocalToGlobal line 435: call VecToso3(omg=relRod.reshape(3)) axis 0 -/
theorem LocalToGlobal_9   : 3 ≤ 3 := by decide

/-- LocalToGlobal line 436: call so3ToVec(so3mat=MatrixLog3(rodRefRod @ trod)) axis 0 -/
theorem LocalToGlobal_10   : 3 ≤ 3 := by decide

/-- LocalToGlobal line 436: call so3ToVec(so3mat=MatrixLog3(rodRefRod @ trod)) axis 1 -/
theorem LocalToGlobal_11   : 3 ≤ 3 := by decide

/-- LocalToGlobal line 436: call MatrixLog3(R=rodRefRod @ trod) axis 0 -/
theorem LocalToGlobal_12   : 3 ≤ 3 := by decide

/-- LocalToGlobal line 436: call MatrixLog3(R=rodRefRod @ trod) axis 1 -/
theorem LocalToGlobal_13   : 3 ≤ 3 := by decide

/-- LocalToGlobal line 438: ret[0:3] axis 0 -/
theorem LocalToGlobal_14   : 0 ≤ 0 ∧ 0 ≤ 3 ∧ 3 ≤ 6 := by decide

/-- LocalToGlobal line 439: ret[3:6] axis 0 -/
theorem LocalToGlobal_15   : 0 ≤ 3 ∧ 3 ≤ 6 ∧ 6 ≤ 6 := by decide

/-- GlobalToLocal line 446: reference[0:3] axis 0 -/
theorem GlobalToLocal_0   : 0 ≤ 0 ∧ 0 ≤ 3 ∧ 3 ≤ 6 := by decide

/-- GlobalToLocal line 447: reference[3:6] axis 0 -/
theorem GlobalToLocal_1   : 0 ≤ 3 ∧ 3 ≤ 6 ∧ 6 ≤ 6 := by decide

/-- GlobalToLocal line 448: rel[0:3] axis 0 -/
theorem GlobalToLocal_2   : 0 ≤ 0 ∧ 0 ≤ 3 ∧ 3 ≤ 6 := by decide

/-- GlobalToLocal line 449: rel[3:6] axis 0 -/
theorem GlobalToLocal_3   : 0 ≤ 3 ∧ 3 ≤ 6 ∧ 6 ≤ 6 := by decide

/-- GlobalToLocal line 451: call MatrixExp3(so3mat=VecToso3(refRod.reshape(3))) axis 0 -/
theorem GlobalToLocal_4   : 3 ≤ 3 := by decide

/-- GlobalToLocal line 451: call MatrixExp3(so3mat=VecToso3(refRod.reshape(3))) axis 1 -/
theorem GlobalToLocal_5   : 3 ≤ 3 := by decide

/-- GlobalToLocal line 451: call VecToso3(omg=refRod.reshape(3)) axis 0 -/
theorem GlobalToLocal_6   : 3 ≤ 3 := by decide

/-- GlobalToLocal line 453: call MatrixExp3(so3mat=VecToso3(relRod.reshape(3))) axis 0 -/
theorem GlobalToLocal_7   : 3 ≤ 3 := by decide

/-- GlobalToLocal line 453: call MatrixExp3(so3mat=VecToso3(relRod.reshape(3))) axis 1 -/
theorem GlobalToLocal_8   : 3 ≤ 3 := by decide

/-- GlobalToLocal line 453: call VecToso3(omg=relRod.reshape(3)) axis 0 -/
theorem GlobalToLocal_9   : 3 ≤ 3 := by decide

/-- GlobalToLocal line 454: call so3ToVec(so3mat=MatrixLog3(rodRefRod.conj().T @ tRod)) axis 0 -/
theorem GlobalToLocal_10   : 3 ≤ 3 := by decide

/-- GlobalToLocal line 454: call so3ToVec(so3mat=MatrixLog3(rodRefRod.conj().T @ tRod)) axis 1 -/
theorem GlobalToLocal_11   : 3 ≤ 3 := by decide

/-- GlobalToLocal line 454: call MatrixLog3(R=rodRefRod.conj().T @ tRod) axis 0 -/
theorem GlobalToLocal_12   : 3 ≤ 3 := by decide

/-- GlobalToLocal line 454: call MatrixLog3(R=rodRefRod.conj().T @ tRod) axis 1 -/
theorem GlobalToLocal_13   : 3 ≤ 3 := by decide

/-- GlobalToLocal line 456: ret[0:3] axis 0 -/
theorem GlobalToLocal_14   : 0 ≤ 0 ∧ 0 ≤ 3 ∧ 3 ≤ 6 := by decide

/-- GlobalToLocal line 457: ret[3:6] axis 0 -/
theorem GlobalToLocal_15   : 0 ≤ 3 ∧ 3 ≤ 6 ∧ 6 ≤ 6 := by decide

/-- MatrixLog6 line 476: call TransToRp(T=T) axis 0 -/
theorem MatrixLog6_0   : 4 ≤ 4 := by decide

/-- MatrixLog6 line 476: call TransToRp(T=T) axis 1 -/
theorem MatrixLog6_1   : 4 ≤ 4 := by decide

/-- MatrixLog6 line 477: call MatrixLog3(R=R) axis 0 -/
theorem MatrixLog6_2   : 3 ≤ 3 := by decide

/-- MatrixLog6 line 477: call MatrixLog3(R=R) axis 1 -/
theorem MatrixLog6_3   : 3 ≤ 3 := by decide

/-- MatrixLog6 line 480: T[0][3] axis 0 -/
theorem MatrixLog6_4   : 0 ≤ 3 ∧ 3 < 4 := by decide

/-- MatrixLog6 line 480: T[1][3] axis 0 -/
theorem MatrixLog6_5   : 0 ≤ 3 ∧ 3 < 4 := by decide

/-- MatrixLog6 line 480: T[2][3] axis 0 -/
theorem MatrixLog6_6   : 0 ≤ 3 ∧ 3 < 4 := by decide

/-- MatrixLog6 line 480: T[0] axis 0 -/
theorem MatrixLog6_7   : 0 ≤ 0 ∧ 0 < 4 := by decide

/-- MatrixLog6 line 480: T[1] axis 0 -/
theorem MatrixLog6_8   : 0 ≤ 1 ∧ 1 < 4 := by decide

/-- MatrixLog6 line 480: T[2] axis 0 -/
theorem MatrixLog6_9   : 0 ≤ 2 ∧ 2 < 4 := by decide

/-- MatrixLog6 line 480: rarr[0:3, 3] axis 0 -/
theorem MatrixLog6_10   : 0 ≤ 0 ∧ 0 ≤ 3 ∧ 3 ≤ 4 := by decide

/-- MatrixLog6 line 480: rarr[0:3, 3] axis 1 -/
theorem MatrixLog6_11   : 0 ≤ 3 ∧ 3 < 4 := by decide

/-- MatrixLog6 line 484: T[0, 3] axis 0 -/
theorem MatrixLog6_12   : 0 ≤ 0 ∧ 0 < 4 := by decide

/-- MatrixLog6 line 484: T[0, 3] axis 1 -/
theorem MatrixLog6_13   : 0 ≤ 3 ∧ 3 < 4 := by decide

/-- MatrixLog6 line 484: T[1, 3] axis 0 -/
theorem MatrixLog6_14   : 0 ≤ 1 ∧ 1 < 4 := by decide

/-- MatrixLog6 line 484: T[1, 3] axis 1 -/
theorem MatrixLog6_15   : 0 ≤ 3 ∧ 3 < 4 := by decide

/-- MatrixLog6 line 484: T[2, 3] axis 0 -/
theorem MatrixLog6_16   : 0 ≤ 2 ∧ 2 < 4 := by decide

/-- MatrixLog6 line 484: T[2, 3] axis 1 -/
theorem MatrixLog6_17   : 0 ≤ 3 ∧ 3 < 4 := by decide

/-- MatrixLog6 line 489: rarr[0:3, 0:3] axis 0 -/
theorem MatrixLog6_18   : 0 ≤ 0 ∧ 0 ≤ 3 ∧ 3 ≤ 4 := by decide

/-- MatrixLog6 line 489: rarr[0:3, 0:3] axis 1 -/
theorem MatrixLog6_19   : 0 ≤ 0 ∧ 0 ≤ 3 ∧ 3 ≤ 4 := by decide

/-- MatrixLog6 line 490: rarr[0:3, 3] axis 0 -/
theorem MatrixLog6_20   : 0 ≤ 0 ∧ 0 ≤ 3 ∧ 3 ≤ 4 := by decide

/-- MatrixLog6 line 490: rarr[0:3, 3] axis 1 -/
theorem MatrixLog6_21   : 0 ≤ 3 ∧ 3 < 4 := by decide

/-- DistanceToSE3 line 594: mat[0:3, 0:3] axis 0 -/
theorem DistanceToSE3_0   : 0 ≤ 0 ∧ 0 ≤ 3 ∧ 3 ≤ 4 := by decide

/-- DistanceToSE3 line 594: mat[0:3, 0:3] axis 1 -/
theorem DistanceToSE3_1   : 0 ≤ 0 ∧ 0 ≤ 3 ∧ 3 ≤ 4 := by decide

/-- DistanceToSE3 line 597: tmat[0:3, 0:3] axis 0 -/
theorem DistanceToSE3_2   : 0 ≤ 0 ∧ 0 ≤ 3 ∧ 3 ≤ 4 := by decide

/-- DistanceToSE3 line 597: tmat[0:3, 0:3] axis 1 -/
theorem DistanceToSE3_3   : 0 ≤ 0 ∧ 0 ≤ 3 ∧ 3 ≤ 4 := by decide

/-- DistanceToSE3 line 598: mat[3, :] axis 0 -/
theorem DistanceToSE3_4   : 0 ≤ 3 ∧ 3 < 4 := by decide

/-- DistanceToSE3 line 598: mat[3, :] axis 1 -/
theorem DistanceToSE3_5   : 0 ≤ 0 ∧ 0 ≤ 4 ∧ 4 ≤ 4 := by decide

/-- DistanceToSE3 line 598: tmat[3, :] axis 0 -/
theorem DistanceToSE3_6   : 0 ≤ 3 ∧ 3 < 4 := by decide

/-- DistanceToSE3 line 598: tmat[3, :] axis 1 -/
theorem DistanceToSE3_7   : 0 ≤ 0 ∧ 0 ≤ 4 ∧ 4 ≤ 4 := by decide

/-- TestIfSO3 line 625: call DistanceToSO3(mat=mat) axis 0 -/
theorem TestIfSO3_0   : 3 ≤ 3 := by decide

/-- TestIfSO3 line 625: call DistanceToSO3(mat=mat) axis 1 -/
theorem TestIfSO3_1   : 3 ≤ 3 := by decide

/-- TestIfSE3 line 649: call DistanceToSE3(mat=mat) axis 0 -/
theorem TestIfSE3_0   : 4 ≤ 4 := by decide

/-- TestIfSE3 line 649: call DistanceToSE3(mat=mat) axis 1 -/
theorem TestIfSE3_1   : 4 ≤ 4 := by decide

/-- FKinBody line 685: call MatrixExp6(se3mat=VecTose3(Blist[:, i] * thetalist[i])) axis 0 -/
theorem FKinBody_0 (i n : Int) (h_n : 0 ≤ n) (h0 : 0 ≤ i) (h1 : i < n) : 4 ≤ 4 := by decide

/-- FKinBody line 685: call MatrixExp6(se3mat=VecTose3(Blist[:, i] * thetalist[i])) axis 1 -/
theorem FKinBody_1 (i n : Int) (h_n : 0 ≤ n) (h0 : 0 ≤ i) (h1 : i < n) : 4 ≤ 4 := by decide

/-- FKinBody line 685: call VecTose3(V=Blist[:, i] * thetalist[i]) axis 0 -/
theorem FKinBody_2 (i n : Int) (h_n : 0 ≤ n) (h0 : 0 ≤ i) (h1 : i < n) : 6 ≤ 6 := by decide

/-- FKinBody line 685: Blist[:, i] axis 0 -/
theorem FKinBody_3 (i n : Int) (h_n : 0 ≤ n) (h0 : 0 ≤ i) (h1 : i < n) : 0 ≤ 0 ∧ 0 ≤ 6 ∧ 6 ≤ 6 := by decide

/-- FKinBody line 685: Blist[:, i] axis 1 -/
theorem FKinBody_4 (i n : Int) (h_n : 0 ≤ n) (h0 : 0 ≤ i) (h1 : i < n) : 0 ≤ i ∧ i < n := by omega

/-- FKinBody line 685: thetalist[i] axis 0 -/
theorem FKinBody_5 (i n : Int) (h_n : 0 ≤ n) (h0 : 0 ≤ i) (h1 : i < n) : 0 ≤ i ∧ i < n := by omega

/-- FKinSpace line 718: call MatrixExp6(se3mat=VecTose3(Slist[:, i] * thetalist[i])) axis 0 -/
theorem FKinSpace_0 (i n : Int) (h_n : 0 ≤ n) (h0 : (-1) < i) (h1 : i ≤ (n - 1)) : 4 ≤ 4 := by decide

/-- FKinSpace line 718: call MatrixExp6(se3mat=VecTose3(Slist[:, i] * thetalist[i])) axis 1 -/
theorem FKinSpace_1 (i n : Int) (h_n : 0 ≤ n) (h0 : (-1) < i) (h1 : i ≤ (n - 1)) : 4 ≤ 4 := by decide

/-- FKinSpace line 718: call VecTose3(V=Slist[:, i] * thetalist[i]) axis 0 -/
theorem FKinSpace_2 (i n : Int) (h_n : 0 ≤ n) (h0 : (-1) < i) (h1 : i ≤ (n - 1)) : 6 ≤ 6 := by decide

/-- FKinSpace line 718: Slist[:, i] axis 0 -/
theorem FKinSpace_3 (i n : Int) (h_n : 0 ≤ n) (h0 : (-1) < i) (h1 : i ≤ (n - 1)) : 0 ≤ 0 ∧ 0 ≤ 6 ∧ 6 ≤ 6 := by decide

/-- FKinSpace line 718: Slist[:, i] axis 1 -/
theorem FKinSpace_4 (i n : Int) (h_n : 0 ≤ n) (h0 : (-1) < i) (h1 : i ≤ (n - 1)) : 0 ≤ i ∧ i < n := by omega

/-- FKinSpace line 718: thetalist[i] axis 0 -/
theorem FKinSpace_5 (i n : Int) (h_n : 0 ≤ n) (h0 : (-1) < i) (h1 : i ≤ (n - 1)) : 0 ≤ i ∧ i < n := by omega

/-- SafeCopy line 729: s[0] axis 0 -/
theorem SafeCopy_0   : 0 ≤ 0 ∧ 0 < 2 := by decide

/-- SafeCopy line 730: s[1] axis 0 -/
theorem SafeCopy_1 (a i : Int) (h_a : 0 ≤ a) (h0 : 0 ≤ i) (h1 : i < a) : 0 ≤ 1 ∧ 1 < 2 := by decide

/-- SafeCopy line 731: arr[i, j] axis 0 -/
theorem SafeCopy_2 (a b i j : Int) (h_a : 0 ≤ a) (h_b : 0 ≤ b) (h0 : 0 ≤ i) (h1 : i < a) (h2 : 0 ≤ j) (h3 : j < b) : 0 ≤ i ∧ i < a := by omega

/-- SafeCopy line 731: arr[i, j] axis 1 -/
theorem SafeCopy_3 (a b i j : Int) (h_a : 0 ≤ a) (h_b : 0 ≤ b) (h0 : 0 ≤ i) (h1 : i < a) (h2 : 0 ≤ j) (h3 : j < b) : 0 ≤ j ∧ j < b := by omega

/-- SafeCopy line 731: newarr[i, j] axis 0 -/
theorem SafeCopy_4 (a b i j : Int) (h_a : 0 ≤ a) (h_b : 0 ≤ b) (h0 : 0 ≤ i) (h1 : i < a) (h2 : 0 ≤ j) (h3 : j < b) : 0 ≤ i ∧ i < a := by omega

/-- SafeCopy line 731: newarr[i, j] axis 1 -/
theorem SafeCopy_5 (a b i j : Int) (h_a : 0 ≤ a) (h_b : 0 ≤ b) (h0 : 0 ≤ i) (h1 : i < a) (h2 : 0 ≤ j) (h3 : j < b) : 0 ≤ j ∧ j < b := by omega

/-- JacobianBody line 760: call MatrixExp6(se3mat=VecTose3(Blist[:, i + 1] * -thetalist[i ) axis 0 -/
theorem JacobianBody_0 (i n : Int) (h_n : 0 ≤ n) (h0 : (-1) < i) (h1 : i ≤ (n - 2)) : 4 ≤ 4 := by decide

/-- JacobianBody line 760: call MatrixExp6(se3mat=VecTose3(Blist[:, i + 1] * -thetalist[i ) axis 1 -/
theorem JacobianBody_1 (i n : Int) (h_n : 0 ≤ n) (h0 : (-1) < i) (h1 : i ≤ (n - 2)) : 4 ≤ 4 := by decide

/-- JacobianBody line 760: call VecTose3(V=Blist[:, i + 1] * -thetalist[i + 1]) axis 0 -/
theorem JacobianBody_2 (i n : Int) (h_n : 0 ≤ n) (h0 : (-1) < i) (h1 : i ≤ (n - 2)) : 6 ≤ 6 := by decide

/-- JacobianBody line 760: Blist[:, i + 1] axis 0 -/
theorem JacobianBody_3 (i n : Int) (h_n : 0 ≤ n) (h0 : (-1) < i) (h1 : i ≤ (n - 2)) : 0 ≤ 0 ∧ 0 ≤ 6 ∧ 6 ≤ 6 := by decide

/-- JacobianBody line 760: Blist[:, i + 1] axis 1 -/
theorem JacobianBody_4 (i n : Int) (h_n : 0 ≤ n) (h0 : (-1) < i) (h1 : i ≤ (n - 2)) : 0 ≤ (i + 1) ∧ (i + 1) < n := by omega

/-- JacobianBody line 761: thetalist[i + 1] axis 0 -/
theorem JacobianBody_5 (i n : Int) (h_n : 0 ≤ n) (h0 : (-1) < i) (h1 : i ≤ (n - 2)) : 0 ≤ (i + 1) ∧ (i + 1) < n := by omega

/-- JacobianBody line 762: call Adjoint(T=T) axis 0 -/
theorem JacobianBody_6 (i n : Int) (h_n : 0 ≤ n) (h0 : (-1) < i) (h1 : i ≤ (n - 2)) : 4 ≤ 4 := by decide

/-- JacobianBody line 762: call Adjoint(T=T) axis 1 -/
theorem JacobianBody_7 (i n : Int) (h_n : 0 ≤ n) (h0 : (-1) < i) (h1 : i ≤ (n - 2)) : 4 ≤ 4 := by decide

/-- JacobianBody line 762: Blist[:, i] axis 0 -/
theorem JacobianBody_8 (i n : Int) (h_n : 0 ≤ n) (h0 : (-1) < i) (h1 : i ≤ (n - 2)) : 0 ≤ 0 ∧ 0 ≤ 6 ∧ 6 ≤ 6 := by decide

/-- JacobianBody line 762: Blist[:, i] axis 1 -/
theorem JacobianBody_9 (i n : Int) (h_n : 0 ≤ n) (h0 : (-1) < i) (h1 : i ≤ (n - 2)) : 0 ≤ i ∧ i < n := by omega

/-- JacobianBody line 762: Jb[:, i] axis 0 -/
theorem JacobianBody_10 (i n : Int) (h_n : 0 ≤ n) (h0 : (-1) < i) (h1 : i ≤ (n - 2)) : 0 ≤ 0 ∧ 0 ≤ 6 ∧ 6 ≤ 6 := by decide

/-- JacobianBody line 762: Jb[:, i] axis 1 -/
theorem JacobianBody_11 (i n : Int) (h_n : 0 ≤ n) (h0 : (-1) < i) (h1 : i ≤ (n - 2)) : 0 ≤ i ∧ i < n := by omega

/-- JacobianSpace line 793: call VecTose3(V=Slist[0:6, i - 1] * thetalist[i - 1]) axis 0 -/
theorem JacobianSpace_0 (i n : Int) (h_n : 0 ≤ n) (h0 : 1 ≤ i) (h1 : i < n) : 6 ≤ 6 := by decide

/-- JacobianSpace line 793: Slist[0:6, i - 1] axis 0 -/
theorem JacobianSpace_1 (i n : Int) (h_n : 0 ≤ n) (h0 : 1 ≤ i) (h1 : i < n) : 0 ≤ 0 ∧ 0 ≤ 6 ∧ 6 ≤ 6 := by decide

/-- JacobianSpace line 793: Slist[0:6, i - 1] axis 1 -/
theorem JacobianSpace_2 (i n : Int) (h_n : 0 ≤ n) (h0 : 1 ≤ i) (h1 : i < n) : 0 ≤ (i - 1) ∧ (i - 1) < n := by omega

/-- JacobianSpace line 793: thetalist[i - 1] axis 0 -/
theorem JacobianSpace_3 (i n : Int) (h_n : 0 ≤ n) (h0 : 1 ≤ i) (h1 : i < n) : 0 ≤ (i - 1) ∧ (i - 1) < n := by omega

/-- JacobianSpace line 794: call MatrixExp6(se3mat=sSe3) axis 0 -/
theorem JacobianSpace_4 (i n : Int) (h_n : 0 ≤ n) (h0 : 1 ≤ i) (h1 : i < n) : 4 ≤ 4 := by decide

/-- JacobianSpace line 794: call MatrixExp6(se3mat=sSe3) axis 1 -/
theorem JacobianSpace_5 (i n : Int) (h_n : 0 ≤ n) (h0 : 1 ≤ i) (h1 : i < n) : 4 ≤ 4 := by decide

/-- JacobianSpace line 795: call Adjoint(T=T) axis 0 -/
theorem JacobianSpace_6 (i n : Int) (h_n : 0 ≤ n) (h0 : 1 ≤ i) (h1 : i < n) : 4 ≤ 4 := by decide

/-- JacobianSpace line 795: call Adjoint(T=T) axis 1 -/
theorem JacobianSpace_7 (i n : Int) (h_n : 0 ≤ n) (h0 : 1 ≤ i) (h1 : i < n) : 4 ≤ 4 := by decide

/-- JacobianSpace line 795: Slist[:, i] axis 0 -/
theorem JacobianSpace_8 (i n : Int) (h_n : 0 ≤ n) (h0 : 1 ≤ i) (h1 : i < n) : 0 ≤ 0 ∧ 0 ≤ 6 ∧ 6 ≤ 6 := by decide

/-- JacobianSpace line 795: Slist[:, i] axis 1 -/
theorem JacobianSpace_9 (i n : Int) (h_n : 0 ≤ n) (h0 : 1 ≤ i) (h1 : i < n) : 0 ≤ i ∧ i < n := by omega

/-- JacobianSpace line 796: Js[:, i] axis 0 -/
theorem JacobianSpace_10 (i n : Int) (h_n : 0 ≤ n) (h0 : 1 ≤ i) (h1 : i < n) : 0 ≤ 0 ∧ 0 ≤ 6 ∧ 6 ≤ 6 := by decide

/-- JacobianSpace line 796: Js[:, i] axis 1 -/
theorem JacobianSpace_11 (i n : Int) (h_n : 0 ≤ n) (h0 : 1 ≤ i) (h1 : i < n) : 0 ≤ i ∧ i < n := by omega

/-- IKinBody line 851: call se3ToVec(se3mat=MatrixLog6(np.dot(TransInv(FKinBody(M, B) axis 0 -/
theorem IKinBody_0   : 4 ≤ 4 := by decide

/-- IKinBody line 851: call se3ToVec(se3mat=MatrixLog6(np.dot(TransInv(FKinBody(M, B) axis 1 -/
theorem IKinBody_1   : 4 ≤ 4 := by decide

/-- IKinBody line 851: call MatrixLog6(T=np.dot(TransInv(FKinBody(M, Blist, theta) axis 0 -/
theorem IKinBody_2   : 4 ≤ 4 := by decide

/-- IKinBody line 851: call MatrixLog6(T=np.dot(TransInv(FKinBody(M, Blist, theta) axis 1 -/
theorem IKinBody_3   : 4 ≤ 4 := by decide

/-- IKinBody line 851: call TransInv(T=FKinBody(M, Blist, thetalist)) axis 0 -/
theorem IKinBody_4   : 4 ≤ 4 := by decide

/-- IKinBody line 851: call TransInv(T=FKinBody(M, Blist, thetalist)) axis 1 -/
theorem IKinBody_5   : 4 ≤ 4 := by decide

/-- IKinBody line 851: call FKinBody(M=M) axis 0 -/
theorem IKinBody_6   : 4 ≤ 4 := by decide

/-- IKinBody line 851: call FKinBody(M=M) axis 1 -/
theorem IKinBody_7   : 4 ≤ 4 := by decide

/-- IKinBody line 851: call FKinBody(Blist=Blist) axis 0 -/
theorem IKinBody_8   : 6 ≤ 6 := by decide

/-- IKinBody line 851: call FKinBody(thetalist=thetalist) axis 0 -/
theorem IKinBody_9 (n : Int) (h_n : 0 ≤ n)  : n = n := by omega

/-- IKinBody line 853: call Norm(v=[Vb[0], Vb[1], Vb[2]]) axis 0 -/
theorem IKinBody_10   : 3 ≤ 3 := by decide

/-- IKinBody line 854: call Norm(v=[Vb[3], Vb[4], Vb[5]]) axis 0 -/
theorem IKinBody_11   : 3 ≤ 3 := by decide

/-- IKinBody line 853: Vb[0] axis 0 -/
theorem IKinBody_12   : 0 ≤ 0 ∧ 0 < 6 := by decide

/-- IKinBody line 853: Vb[1] axis 0 -/
theorem IKinBody_13   : 0 ≤ 1 ∧ 1 < 6 := by decide

/-- IKinBody line 853: Vb[2] axis 0 -/
theorem IKinBody_14   : 0 ≤ 2 ∧ 2 < 6 := by decide

/-- IKinBody line 854: Vb[3] axis 0 -/
theorem IKinBody_15   : 0 ≤ 3 ∧ 3 < 6 := by decide

/-- IKinBody line 854: Vb[4] axis 0 -/
theorem IKinBody_16   : 0 ≤ 4 ∧ 4 < 6 := by decide

/-- IKinBody line 854: Vb[5] axis 0 -/
theorem IKinBody_17   : 0 ≤ 5 ∧ 5 < 6 := by decide

/-- IKinBody line 857: call JacobianBody(Blist=Blist) axis 0 -/
theorem IKinBody_18   : 6 ≤ 6 := by decide

/-- IKinBody line 857: call JacobianBody(thetalist=thetalist) axis 0 -/
theorem IKinBody_19 (n : Int) (h_n : 0 ≤ n)  : n = n := by omega

/-- IKinBody line 861: call se3ToVec(se3mat=MatrixLog6(np.dot(TransInv(FKinBody(M, B) axis 0 -/
theorem IKinBody_20   : 4 ≤ 4 := by decide

/-- IKinBody line 861: call se3ToVec(se3mat=MatrixLog6(np.dot(TransInv(FKinBody(M, B) axis 1 -/
theorem IKinBody_21   : 4 ≤ 4 := by decide

/-- IKinBody line 861: call MatrixLog6(T=np.dot(TransInv(FKinBody(M, Blist, theta) axis 0 -/
theorem IKinBody_22   : 4 ≤ 4 := by decide

/-- IKinBody line 861: call MatrixLog6(T=np.dot(TransInv(FKinBody(M, Blist, theta) axis 1 -/
theorem IKinBody_23   : 4 ≤ 4 := by decide

/-- IKinBody line 861: call TransInv(T=FKinBody(M, Blist, thetalist)) axis 0 -/
theorem IKinBody_24   : 4 ≤ 4 := by decide

/-- IKinBody line 861: call TransInv(T=FKinBody(M, Blist, thetalist)) axis 1 -/
theorem IKinBody_25   : 4 ≤ 4 := by decide

/-- IKinBody line 861: call FKinBody(M=M) axis 0 -/
theorem IKinBody_26   : 4 ≤ 4 := by decide

/-- IKinBody line 861: call FKinBody(M=M) axis 1 -/
theorem IKinBody_27   : 4 ≤ 4 := by decide

/-- IKinBody line 861: call FKinBody(Blist=Blist) axis 0 -/
theorem IKinBody_28   : 6 ≤ 6 := by decide

/-- IKinBody line 861: call FKinBody(thetalist=thetalist) axis 0 -/
theorem IKinBody_29 (n : Int) (h_n : 0 ≤ n)  : n = n := by omega

/-- IKinBody line 863: call Norm(v=[Vb[0], Vb[1], Vb[2]]) axis 0 -/
theorem IKinBody_30   : 3 ≤ 3 := by decide

/-- IKinBody line 864: call Norm(v=[Vb[3], Vb[4], Vb[5]]) axis 0 -/
theorem IKinBody_31   : 3 ≤ 3 := by decide

/-- IKinBody line 863: Vb[0] axis 0 -/
theorem IKinBody_32   : 0 ≤ 0 ∧ 0 < 6 := by decide

/-- IKinBody line 863: Vb[1] axis 0 -/
theorem IKinBody_33   : 0 ≤ 1 ∧ 1 < 6 := by decide

/-- IKinBody line 863: Vb[2] axis 0 -/
theorem IKinBody_34   : 0 ≤ 2 ∧ 2 < 6 := by decide

/-- IKinBody line 864: Vb[3] axis 0 -/
theorem IKinBody_35   : 0 ≤ 3 ∧ 3 < 6 := by decide

/-- IKinBody line 864: Vb[4] axis 0 -/
theorem IKinBody_36   : 0 ≤ 4 ∧ 4 < 6 := by decide

/-- IKinBody line 864: Vb[5] axis 0 -/
theorem IKinBody_37   : 0 ≤ 5 ∧ 5 < 6 := by decide

/-- IKinSpace line 914: call FKinSpace(M=M) axis 0 -/
theorem IKinSpace_0   : 4 ≤ 4 := by decide

/-- IKinSpace line 914: call FKinSpace(M=M) axis 1 -/
theorem IKinSpace_1   : 4 ≤ 4 := by decide

/-- IKinSpace line 914: call FKinSpace(Slist=Slist) axis 0 -/
theorem IKinSpace_2   : 6 ≤ 6 := by decide

/-- IKinSpace line 914: call FKinSpace(thetalist=thetalist) axis 0 -/
theorem IKinSpace_3 (n : Int) (h_n : 0 ≤ n)  : n = n := by omega

/-- IKinSpace line 915: call Adjoint(T=Tsb) axis 0 -/
theorem IKinSpace_4   : 4 ≤ 4 := by decide

/-- IKinSpace line 915: call Adjoint(T=Tsb) axis 1 -/
theorem IKinSpace_5   : 4 ≤ 4 := by decide

/-- IKinSpace line 916: call TransInv(T=Tsb) axis 0 -/
theorem IKinSpace_6   : 4 ≤ 4 := by decide

/-- IKinSpace line 916: call TransInv(T=Tsb) axis 1 -/
theorem IKinSpace_7   : 4 ≤ 4 := by decide

/-- IKinSpace line 918: call MatrixLog6(T=dotTsTb) axis 0 -/
theorem IKinSpace_8   : 4 ≤ 4 := by decide

/-- IKinSpace line 918: call MatrixLog6(T=dotTsTb) axis 1 -/
theorem IKinSpace_9   : 4 ≤ 4 := by decide

/-- IKinSpace line 919: call se3ToVec(se3mat=ml6dot) axis 0 -/
theorem IKinSpace_10   : 4 ≤ 4 := by decide

/-- IKinSpace line 919: call se3ToVec(se3mat=ml6dot) axis 1 -/
theorem IKinSpace_11   : 4 ≤ 4 := by decide

/-- IKinSpace line 923: call Norm(v=[Vs[0], Vs[1], Vs[2]]) axis 0 -/
theorem IKinSpace_12   : 3 ≤ 3 := by decide

/-- IKinSpace line 923: call Norm(v=[Vs[3], Vs[4], Vs[5]]) axis 0 -/
theorem IKinSpace_13   : 3 ≤ 3 := by decide

/-- IKinSpace line 923: Vs[0] axis 0 -/
theorem IKinSpace_14   : 0 ≤ 0 ∧ 0 < 6 := by decide

/-- IKinSpace line 923: Vs[1] axis 0 -/
theorem IKinSpace_15   : 0 ≤ 1 ∧ 1 < 6 := by decide

/-- IKinSpace line 923: Vs[2] axis 0 -/
theorem IKinSpace_16   : 0 ≤ 2 ∧ 2 < 6 := by decide

/-- IKinSpace line 923: Vs[3] axis 0 -/
theorem IKinSpace_17   : 0 ≤ 3 ∧ 3 < 6 := by decide

/-- IKinSpace line 923: Vs[4] axis 0 -/
theorem IKinSpace_18   : 0 ≤ 4 ∧ 4 < 6 := by decide

/-- IKinSpace line 923: Vs[5] axis 0 -/
theorem IKinSpace_19   : 0 ≤ 5 ∧ 5 < 6 := by decide

/-- IKinSpace line 925: call JacobianSpace(Slist=Slist) axis 0 -/
theorem IKinSpace_20   : 6 ≤ 6 := by decide

/-- IKinSpace line 925: call JacobianSpace(thetalist=thetalist) axis 0 -/
theorem IKinSpace_21 (n : Int) (h_n : 0 ≤ n)  : n = n := by omega

/-- IKinSpace line 930: call FKinSpace(M=M) axis 0 -/
theorem IKinSpace_22   : 4 ≤ 4 := by decide

/-- IKinSpace line 930: call FKinSpace(M=M) axis 1 -/
theorem IKinSpace_23   : 4 ≤ 4 := by decide

/-- IKinSpace line 930: call FKinSpace(Slist=Slist) axis 0 -/
theorem IKinSpace_24   : 6 ≤ 6 := by decide

/-- IKinSpace line 930: call FKinSpace(thetalist=thetalist) axis 0 -/
theorem IKinSpace_25 (n : Int) (h_n : 0 ≤ n)  : n = n := by omega

/-- IKinSpace line 931: call Adjoint(T=Tsb) axis 0 -/
theorem IKinSpace_26   : 4 ≤ 4 := by decide

/-- IKinSpace line 931: call Adjoint(T=Tsb) axis 1 -/
theorem IKinSpace_27   : 4 ≤ 4 := by decide

/-- IKinSpace line 931: call se3ToVec(se3mat=MatrixLog6(np.dot(TransInv(Tsb), T))) axis 0 -/
theorem IKinSpace_28   : 4 ≤ 4 := by decide

/-- IKinSpace line 931: call se3ToVec(se3mat=MatrixLog6(np.dot(TransInv(Tsb), T))) axis 1 -/
theorem IKinSpace_29   : 4 ≤ 4 := by decide

/-- IKinSpace line 931: call MatrixLog6(T=np.dot(TransInv(Tsb), T)) axis 0 -/
theorem IKinSpace_30   : 4 ≤ 4 := by decide

/-- IKinSpace line 931: call MatrixLog6(T=np.dot(TransInv(Tsb), T)) axis 1 -/
theorem IKinSpace_31   : 4 ≤ 4 := by decide

/-- IKinSpace line 931: call TransInv(T=Tsb) axis 0 -/
theorem IKinSpace_32   : 4 ≤ 4 := by decide

/-- IKinSpace line 931: call TransInv(T=Tsb) axis 1 -/
theorem IKinSpace_33   : 4 ≤ 4 := by decide

/-- IKinSpace line 932: call Norm(v=[Vs[0], Vs[1], Vs[2]]) axis 0 -/
theorem IKinSpace_34   : 3 ≤ 3 := by decide

/-- IKinSpace line 932: call Norm(v=[Vs[3], Vs[4], Vs[5]]) axis 0 -/
theorem IKinSpace_35   : 3 ≤ 3 := by decide

/-- IKinSpace line 932: Vs[0] axis 0 -/
theorem IKinSpace_36   : 0 ≤ 0 ∧ 0 < 6 := by decide

/-- IKinSpace line 932: Vs[1] axis 0 -/
theorem IKinSpace_37   : 0 ≤ 1 ∧ 1 < 6 := by decide

/-- IKinSpace line 932: Vs[2] axis 0 -/
theorem IKinSpace_38   : 0 ≤ 2 ∧ 2 < 6 := by decide

/-- IKinSpace line 932: Vs[3] axis 0 -/
theorem IKinSpace_39   : 0 ≤ 3 ∧ 3 < 6 := by decide

/-- IKinSpace line 932: Vs[4] axis 0 -/
theorem IKinSpace_40   : 0 ≤ 4 ∧ 4 < 6 := by decide

/-- IKinSpace line 932: Vs[5] axis 0 -/
theorem IKinSpace_41   : 0 ≤ 5 ∧ 5 < 6 := by decide

/-- ad line 958: call VecToso3(omg=[V[0], V[1], V[2]]) axis 0 -/
theorem ad_0   : 3 ≤ 3 := by decide

/-- ad line 958: V[0] axis 0 -/
theorem ad_1   : 0 ≤ 0 ∧ 0 < 6 := by decide

/-- ad line 958: V[1] axis 0 -/
theorem ad_2   : 0 ≤ 1 ∧ 1 < 6 := by decide

/-- ad line 958: V[2] axis 0 -/
theorem ad_3   : 0 ≤ 2 ∧ 2 < 6 := by decide

/-- ad line 960: result[0:3, 0:3] axis 0 -/
theorem ad_4   : 0 ≤ 0 ∧ 0 ≤ 3 ∧ 3 ≤ 6 := by decide

/-- ad line 960: result[0:3, 0:3] axis 1 -/
theorem ad_5   : 0 ≤ 0 ∧ 0 ≤ 3 ∧ 3 ≤ 6 := by decide

/-- ad line 961: call VecToso3(omg=[V[3], V[4], V[5]]) axis 0 -/
theorem ad_6   : 3 ≤ 3 := by decide

/-- ad line 961: V[3] axis 0 -/
theorem ad_7   : 0 ≤ 3 ∧ 3 < 6 := by decide

/-- ad line 961: V[4] axis 0 -/
theorem ad_8   : 0 ≤ 4 ∧ 4 < 6 := by decide

/-- ad line 961: V[5] axis 0 -/
theorem ad_9   : 0 ≤ 5 ∧ 5 < 6 := by decide

/-- ad line 961: result[3:6, 0:3] axis 0 -/
theorem ad_10   : 0 ≤ 3 ∧ 3 ≤ 6 ∧ 6 ≤ 6 := by decide

/-- ad line 961: result[3:6, 0:3] axis 1 -/
theorem ad_11   : 0 ≤ 0 ∧ 0 ≤ 3 ∧ 3 ≤ 6 := by decide

/-- ad line 962: result[3:6, 3:6] axis 0 -/
theorem ad_12   : 0 ≤ 3 ∧ 3 ≤ 6 ∧ 6 ≤ 6 := by decide

/-- ad line 962: result[3:6, 3:6] axis 1 -/
theorem ad_13   : 0 ≤ 3 ∧ 3 ≤ 6 ∧ 6 ≤ 6 := by decide

/-- JointTrajectory line 1641: traj[:, i] axis 0 -/
theorem JointTrajectory_0 (N i n : Int) (h_n : 0 ≤ n) (h0 : 0 ≤ i) (h1 : i < N) : 0 ≤ 0 ∧ 0 ≤ n ∧ n ≤ n := by omega

/-- JointTrajectory line 1641: traj[:, i] axis 1 -/
theorem JointTrajectory_1 (N i : Int)  (h0 : 0 ≤ i) (h1 : i < N) : 0 ≤ i ∧ i < N := by omega

/-- IKinSpaceConstrained line 30: call FKinSpace(M=ee_home) axis 0 -/
theorem IKinSpaceConstrained_0   : 4 ≤ 4 := by decide

/-- IKinSpaceConstrained line 30: call FKinSpace(M=ee_home) axis 1 -/
theorem IKinSpaceConstrained_1   : 4 ≤ 4 := by decide

/-- IKinSpaceConstrained line 30: call FKinSpace(Slist=screw_list) axis 0 -/
theorem IKinSpaceConstrained_2   : 6 ≤ 6 := by decide

/-- IKinSpaceConstrained line 30: call FKinSpace(thetalist=theta_list) axis 0 -/
theorem IKinSpaceConstrained_3 (n : Int) (h_n : 0 ≤ n)  : n = n := by omega

/-- IKinSpaceConstrained line 31: call Adjoint(T=ee_current) axis 0 -/
theorem IKinSpaceConstrained_4   : 4 ≤ 4 := by decide

/-- IKinSpaceConstrained line 31: call Adjoint(T=ee_current) axis 1 -/
theorem IKinSpaceConstrained_5   : 4 ≤ 4 := by decide

/-- IKinSpaceConstrained line 32: call se3ToVec(se3mat=MatrixLog6(np.dot(TransInv(ee_current), ) axis 0 -/
theorem IKinSpaceConstrained_6   : 4 ≤ 4 := by decide

/-- IKinSpaceConstrained line 32: call se3ToVec(se3mat=MatrixLog6(np.dot(TransInv(ee_current), ) axis 1 -/
theorem IKinSpaceConstrained_7   : 4 ≤ 4 := by decide

/-- IKinSpaceConstrained line 32: call MatrixLog6(T=np.dot(TransInv(ee_current), ee_goal)) axis 0 -/
theorem IKinSpaceConstrained_8   : 4 ≤ 4 := by decide

/-- IKinSpaceConstrained line 32: call MatrixLog6(T=np.dot(TransInv(ee_current), ee_goal)) axis 1 -/
theorem IKinSpaceConstrained_9   : 4 ≤ 4 := by decide

/-- IKinSpaceConstrained line 32: call TransInv(T=ee_current) axis 0 -/
theorem IKinSpaceConstrained_10   : 4 ≤ 4 := by decide

/-- IKinSpaceConstrained line 32: call TransInv(T=ee_current) axis 1 -/
theorem IKinSpaceConstrained_11   : 4 ≤ 4 := by decide

/-- IKinSpaceConstrained line 34: error_vec[0:3] axis 0 -/
theorem IKinSpaceConstrained_12   : 0 ≤ 0 ∧ 0 ≤ 3 ∧ 3 ≤ 6 := by decide

/-- IKinSpaceConstrained line 35: error_vec[3:6] axis 0 -/
theorem IKinSpaceConstrained_13   : 0 ≤ 3 ∧ 3 ≤ 6 ∧ 6 ≤ 6 := by decide

/-- IKinSpaceConstrained line 40: call JacobianSpace(Slist=screw_list) axis 0 -/
theorem IKinSpaceConstrained_14   : 6 ≤ 6 := by decide

/-- IKinSpaceConstrained line 40: call JacobianSpace(thetalist=theta_list) axis 0 -/
theorem IKinSpaceConstrained_15 (n : Int) (h_n : 0 ≤ n)  : n = n := by omega

/-- IKinSpaceConstrained line 45: theta_list[j] axis 0 -/
theorem IKinSpaceConstrained_16 (j n : Int) (h_n : 0 ≤ n) (h0 : 0 ≤ j) (h1 : j < n) : 0 ≤ j ∧ j < n := by omega

/-- IKinSpaceConstrained line 45: joint_mins[j] axis 0 -/
theorem IKinSpaceConstrained_17 (j n : Int) (h_n : 0 ≤ n) (h0 : 0 ≤ j) (h1 : j < n) : 0 ≤ j ∧ j < n := by omega

/-- IKinSpaceConstrained line 46: joint_mins[j] axis 0 -/
theorem IKinSpaceConstrained_18 (j n : Int) (h_n : 0 ≤ n) (h0 : 0 ≤ j) (h1 : j < n) : 0 ≤ j ∧ j < n := by omega

/-- IKinSpaceConstrained line 46: theta_list[j] axis 0 -/
theorem IKinSpaceConstrained_19 (j n : Int) (h_n : 0 ≤ n) (h0 : 0 ≤ j) (h1 : j < n) : 0 ≤ j ∧ j < n := by omega

/-- IKinSpaceConstrained line 47: theta_list[j] axis 0 -/
theorem IKinSpaceConstrained_20 (j n : Int) (h_n : 0 ≤ n) (h0 : 0 ≤ j) (h1 : j < n) : 0 ≤ j ∧ j < n := by omega

/-- IKinSpaceConstrained line 47: joint_maxs[j] axis 0 -/
theorem IKinSpaceConstrained_21 (j n : Int) (h_n : 0 ≤ n) (h0 : 0 ≤ j) (h1 : j < n) : 0 ≤ j ∧ j < n := by omega

/-- IKinSpaceConstrained line 48: joint_maxs[j] axis 0 -/
theorem IKinSpaceConstrained_22 (j n : Int) (h_n : 0 ≤ n) (h0 : 0 ≤ j) (h1 : j < n) : 0 ≤ j ∧ j < n := by omega

/-- IKinSpaceConstrained line 48: theta_list[j] axis 0 -/
theorem IKinSpaceConstrained_23 (j n : Int) (h_n : 0 ≤ n) (h0 : 0 ≤ j) (h1 : j < n) : 0 ≤ j ∧ j < n := by omega

/-- IKinSpaceConstrained line 50: call FKinSpace(M=ee_home) axis 0 -/
theorem IKinSpaceConstrained_24   : 4 ≤ 4 := by decide

/-- IKinSpaceConstrained line 50: call FKinSpace(M=ee_home) axis 1 -/
theorem IKinSpaceConstrained_25   : 4 ≤ 4 := by decide

/-- IKinSpaceConstrained line 50: call FKinSpace(Slist=screw_list) axis 0 -/
theorem IKinSpaceConstrained_26   : 6 ≤ 6 := by decide

/-- IKinSpaceConstrained line 50: call FKinSpace(thetalist=theta_list) axis 0 -/
theorem IKinSpaceConstrained_27 (n : Int) (h_n : 0 ≤ n)  : n = n := by omega

/-- IKinSpaceConstrained line 51: call Adjoint(T=ee_current) axis 0 -/
theorem IKinSpaceConstrained_28   : 4 ≤ 4 := by decide

/-- IKinSpaceConstrained line 51: call Adjoint(T=ee_current) axis 1 -/
theorem IKinSpaceConstrained_29   : 4 ≤ 4 := by decide

/-- IKinSpaceConstrained line 52: call se3ToVec(se3mat=MatrixLog6(np.dot(TransInv(ee_current), ) axis 0 -/
theorem IKinSpaceConstrained_30   : 4 ≤ 4 := by decide

/-- IKinSpaceConstrained line 52: call se3ToVec(se3mat=MatrixLog6(np.dot(TransInv(ee_current), ) axis 1 -/
theorem IKinSpaceConstrained_31   : 4 ≤ 4 := by decide

/-- IKinSpaceConstrained line 52: call MatrixLog6(T=np.dot(TransInv(ee_current), ee_goal)) axis 0 -/
theorem IKinSpaceConstrained_32   : 4 ≤ 4 := by decide

/-- IKinSpaceConstrained line 52: call MatrixLog6(T=np.dot(TransInv(ee_current), ee_goal)) axis 1 -/
theorem IKinSpaceConstrained_33   : 4 ≤ 4 := by decide

/-- IKinSpaceConstrained line 52: call TransInv(T=ee_current) axis 0 -/
theorem IKinSpaceConstrained_34   : 4 ≤ 4 := by decide

/-- IKinSpaceConstrained line 52: call TransInv(T=ee_current) axis 1 -/
theorem IKinSpaceConstrained_35   : 4 ≤ 4 := by decide

/-- IKinSpaceConstrained line 53: error_vec[0:3] axis 0 -/
theorem IKinSpaceConstrained_36   : 0 ≤ 0 ∧ 0 ≤ 3 ∧ 3 ≤ 6 := by decide

/-- IKinSpaceConstrained line 54: error_vec[3:6] axis 0 -/
theorem IKinSpaceConstrained_37   : 0 ≤ 3 ∧ 3 ≤ 6 ∧ 6 ≤ 6 := by decide

/-- SPIKinSpace line 85: call TrVec(transformation_matrix=bottom_transform) axis 0 -/
theorem SPIKinSpace_0 (i : Int)  (h0 : 0 ≤ i) (h1 : i < 6) : 4 ≤ 4 := by decide

/-- SPIKinSpace line 85: call TrVec(transformation_matrix=bottom_transform) axis 1 -/
theorem SPIKinSpace_1 (i : Int)  (h0 : 0 ≤ i) (h1 : i < 6) : 4 ≤ 4 := by decide

/-- SPIKinSpace line 85: call TrVec(vector=bottom_joints[0:3, i]) axis 0 -/
theorem SPIKinSpace_2 (i : Int)  (h0 : 0 ≤ i) (h1 : i < 6) : 3 ≤ 3 := by decide

/-- SPIKinSpace line 85: bottom_joints[0:3, i] axis 0 -/
theorem SPIKinSpace_3 (i : Int)  (h0 : 0 ≤ i) (h1 : i < 6) : 0 ≤ 0 ∧ 0 ≤ 3 ∧ 3 ≤ 3 := by decide

/-- SPIKinSpace line 85: bottom_joints[0:3, i] axis 1 -/
theorem SPIKinSpace_4 (i : Int)  (h0 : 0 ≤ i) (h1 : i < 6) : 0 ≤ i ∧ i < 6 := by omega

/-- SPIKinSpace line 85: bottom_joint_locations[0:3, i] axis 0 -/
theorem SPIKinSpace_5 (i : Int)  (h0 : 0 ≤ i) (h1 : i < 6) : 0 ≤ 0 ∧ 0 ≤ 3 ∧ 3 ≤ 3 := by decide

/-- SPIKinSpace line 85: bottom_joint_locations[0:3, i] axis 1 -/
theorem SPIKinSpace_6 (i : Int)  (h0 : 0 ≤ i) (h1 : i < 6) : 0 ≤ i ∧ i < 6 := by omega

/-- SPIKinSpace line 86: call TrVec(transformation_matrix=top_transform) axis 0 -/
theorem SPIKinSpace_7 (i : Int)  (h0 : 0 ≤ i) (h1 : i < 6) : 4 ≤ 4 := by decide

/-- SPIKinSpace line 86: call TrVec(transformation_matrix=top_transform) axis 1 -/
theorem SPIKinSpace_8 (i : Int)  (h0 : 0 ≤ i) (h1 : i < 6) : 4 ≤ 4 := by decide

/-- SPIKinSpace line 86: call TrVec(vector=top_joints[0:3, i]) axis 0 -/
theorem SPIKinSpace_9 (i : Int)  (h0 : 0 ≤ i) (h1 : i < 6) : 3 ≤ 3 := by decide

/-- SPIKinSpace line 86: top_joints[0:3, i] axis 0 -/
theorem SPIKinSpace_10 (i : Int)  (h0 : 0 ≤ i) (h1 : i < 6) : 0 ≤ 0 ∧ 0 ≤ 3 ∧ 3 ≤ 3 := by decide

/-- SPIKinSpace line 86: top_joints[0:3, i] axis 1 -/
theorem SPIKinSpace_11 (i : Int)  (h0 : 0 ≤ i) (h1 : i < 6) : 0 ≤ i ∧ i < 6 := by omega

/-- SPIKinSpace line 86: top_joint_locations[0:3, i] axis 0 -/
theorem SPIKinSpace_12 (i : Int)  (h0 : 0 ≤ i) (h1 : i < 6) : 0 ≤ 0 ∧ 0 ≤ 3 ∧ 3 ≤ 3 := by decide

/-- SPIKinSpace line 86: top_joint_locations[0:3, i] axis 1 -/
theorem SPIKinSpace_13 (i : Int)  (h0 : 0 ≤ i) (h1 : i < 6) : 0 ≤ i ∧ i < 6 := by omega

/-- SPIKinSpace line 87: call Norm(v=top_joint_locations[0:3, i] - bottom_joi) axis 0 -/
theorem SPIKinSpace_14 (i : Int)  (h0 : 0 ≤ i) (h1 : i < 6) : 3 ≤ 3 := by decide

/-- SPIKinSpace line 87: top_joint_locations[0:3, i] axis 0 -/
theorem SPIKinSpace_15 (i : Int)  (h0 : 0 ≤ i) (h1 : i < 6) : 0 ≤ 0 ∧ 0 ≤ 3 ∧ 3 ≤ 3 := by decide

/-- SPIKinSpace line 87: top_joint_locations[0:3, i] axis 1 -/
theorem SPIKinSpace_16 (i : Int)  (h0 : 0 ≤ i) (h1 : i < 6) : 0 ≤ i ∧ i < 6 := by omega

/-- SPIKinSpace line 87: bottom_joint_locations[0:3, i] axis 0 -/
theorem SPIKinSpace_17 (i : Int)  (h0 : 0 ≤ i) (h1 : i < 6) : 0 ≤ 0 ∧ 0 ≤ 3 ∧ 3 ≤ 3 := by decide

/-- SPIKinSpace line 87: bottom_joint_locations[0:3, i] axis 1 -/
theorem SPIKinSpace_18 (i : Int)  (h0 : 0 ≤ i) (h1 : i < 6) : 0 ≤ i ∧ i < 6 := by omega

/-- SPIKinSpace line 88: lengths[i] axis 0 -/
theorem SPIKinSpace_19 (i : Int)  (h0 : 0 ≤ i) (h1 : i < 6) : 0 ≤ i ∧ i < 6 := by omega

/-- SPFKinSpaceR line 127: top_plate_guess[i] axis 0 -/
theorem SPFKinSpaceR_0 (i : Int)  (h0 : 3 ≤ i) (h1 : i < 6) : 0 ≤ i ∧ i < 6 := by omega

/-- SPFKinSpaceR line 127: angs[j] axis 0 -/
theorem SPFKinSpaceR_1 (i : Int)  (h0 : 3 ≤ i) (h1 : i < 6) : 0 ≤ (2 * (i - 3)) ∧ (2 * (i - 3)) < 6 := by omega

/-- SPFKinSpaceR line 128: top_plate_guess[i] axis 0 -/
theorem SPFKinSpaceR_2 (i : Int)  (h0 : 3 ≤ i) (h1 : i < 6) : 0 ≤ i ∧ i < 6 := by omega

/-- SPFKinSpaceR line 128: angs[j + 1] axis 0 -/
theorem SPFKinSpaceR_3 (i : Int)  (h0 : 3 ≤ i) (h1 : i < 6) : 0 ≤ ((2 * (i - 3)) + 1) ∧ ((2 * (i - 3)) + 1) < 6 := by omega

/-- SPFKinSpaceR line 126: invariant j = 2 * (i - 3) (initially) -/
theorem SPFKinSpaceR_4 (i : Int)  (h0 : i = 3) : 0 = 2 * (i - 3) := by omega

/-- SPFKinSpaceR line 126: invariant j = 2 * (i - 3) (preserved) -/
theorem SPFKinSpaceR_5 (i j : Int)  (h0 : j = 2 * (i - 3)) : j + 2 = 2 * ((i + 1) - 3) := by omega

/-- SPFKinSpaceR line 131: top_plate_guess[2] axis 0 -/
theorem SPFKinSpaceR_6   : 0 ≤ 2 ∧ 2 < 6 := by decide

/-- SPFKinSpaceR line 133: top_plate_guess[2] axis 0 -/
theorem SPFKinSpaceR_7   : 0 ≤ 2 ∧ 2 < 6 := by decide

/-- SPFKinSpaceR line 137: call MatrixExp3(so3mat=VecToso3(top_plate_guess[3:6])) axis 0 -/
theorem SPFKinSpaceR_8   : 3 ≤ 3 := by decide

/-- SPFKinSpaceR line 137: call MatrixExp3(so3mat=VecToso3(top_plate_guess[3:6])) axis 1 -/
theorem SPFKinSpaceR_9   : 3 ≤ 3 := by decide

/-- SPFKinSpaceR line 137: call VecToso3(omg=top_plate_guess[3:6]) axis 0 -/
theorem SPFKinSpaceR_10   : 3 ≤ 3 := by decide

/-- SPFKinSpaceR line 137: top_plate_guess[3:6] axis 0 -/
theorem SPFKinSpaceR_11   : 0 ≤ 3 ∧ 3 ≤ 6 ∧ 6 ≤ 6 := by decide

/-- SPFKinSpaceR line 141: top_plate_guess[0:3] axis 0 -/
theorem SPFKinSpaceR_12   : 0 ≤ 0 ∧ 0 ≤ 3 ∧ 3 ≤ 6 := by decide

/-- SPFKinSpaceR line 146: top_joints_init[i, :] axis 0 -/
theorem SPFKinSpaceR_13 (i : Int)  (h0 : 0 ≤ i) (h1 : i < 6) : 0 ≤ i ∧ i < 6 := by omega

/-- SPFKinSpaceR line 146: top_joints_init[i, :] axis 1 -/
theorem SPFKinSpaceR_14 (i : Int)  (h0 : 0 ≤ i) (h1 : i < 6) : 0 ≤ 0 ∧ 0 ≤ 3 ∧ 3 ≤ 3 := by decide

/-- SPFKinSpaceR line 146: uvw[i, :] axis 0 -/
theorem SPFKinSpaceR_15 (i : Int)  (h0 : 0 ≤ i) (h1 : i < 6) : 0 ≤ i ∧ i < 6 := by omega

/-- SPFKinSpaceR line 146: uvw[i, :] axis 1 -/
theorem SPFKinSpaceR_16 (i : Int)  (h0 : 0 ≤ i) (h1 : i < 6) : 0 ≤ 0 ∧ 0 ≤ 3 ∧ 3 ≤ 3 := by decide

/-- SPFKinSpaceR line 162: dfda[:, 0:3] axis 0 -/
theorem SPFKinSpaceR_17   : 0 ≤ 0 ∧ 0 ≤ 6 ∧ 6 ≤ 6 := by decide

/-- SPFKinSpaceR line 162: dfda[:, 0:3] axis 1 -/
theorem SPFKinSpaceR_18   : 0 ≤ 0 ∧ 0 ≤ 3 ∧ 3 ≤ 6 := by decide

/-- SPFKinSpaceR line 165: uvw[i, 1] axis 0 -/
theorem SPFKinSpaceR_19 (i : Int)  (h0 : 0 ≤ i) (h1 : i < 6) : 0 ≤ i ∧ i < 6 := by omega

/-- SPFKinSpaceR line 165: uvw[i, 1] axis 1 -/
theorem SPFKinSpaceR_20 (i : Int)  (h0 : 0 ≤ i) (h1 : i < 6) : 0 ≤ 1 ∧ 1 < 3 := by decide

/-- SPFKinSpaceR line 165: xbar[i, 1] axis 0 -/
theorem SPFKinSpaceR_21 (i : Int)  (h0 : 0 ≤ i) (h1 : i < 6) : 0 ≤ i ∧ i < 6 := by omega

/-- SPFKinSpaceR line 165: xbar[i, 1] axis 1 -/
theorem SPFKinSpaceR_22 (i : Int)  (h0 : 0 ≤ i) (h1 : i < 6) : 0 ≤ 1 ∧ 1 < 3 := by decide

/-- SPFKinSpaceR line 165: uvw[i, 0] axis 0 -/
theorem SPFKinSpaceR_23 (i : Int)  (h0 : 0 ≤ i) (h1 : i < 6) : 0 ≤ i ∧ i < 6 := by omega

/-- SPFKinSpaceR line 165: uvw[i, 0] axis 1 -/
theorem SPFKinSpaceR_24 (i : Int)  (h0 : 0 ≤ i) (h1 : i < 6) : 0 ≤ 0 ∧ 0 < 3 := by decide

/-- SPFKinSpaceR line 165: xbar[i, 0] axis 0 -/
theorem SPFKinSpaceR_25 (i : Int)  (h0 : 0 ≤ i) (h1 : i < 6) : 0 ≤ i ∧ i < 6 := by omega

/-- SPFKinSpaceR line 165: xbar[i, 0] axis 1 -/
theorem SPFKinSpaceR_26 (i : Int)  (h0 : 0 ≤ i) (h1 : i < 6) : 0 ≤ 0 ∧ 0 < 3 := by decide

/-- SPFKinSpaceR line 165: dfda[i, 5] axis 0 -/
theorem SPFKinSpaceR_27 (i : Int)  (h0 : 0 ≤ i) (h1 : i < 6) : 0 ≤ i ∧ i < 6 := by omega

/-- SPFKinSpaceR line 165: dfda[i, 5] axis 1 -/
theorem SPFKinSpaceR_28 (i : Int)  (h0 : 0 ≤ i) (h1 : i < 6) : 0 ≤ 5 ∧ 5 < 6 := by decide

/-- SPFKinSpaceR line 167: uvw[i, 2] axis 0 -/
theorem SPFKinSpaceR_29 (i : Int)  (h0 : 0 ≤ i) (h1 : i < 6) : 0 ≤ i ∧ i < 6 := by omega

/-- SPFKinSpaceR line 167: uvw[i, 2] axis 1 -/
theorem SPFKinSpaceR_30 (i : Int)  (h0 : 0 ≤ i) (h1 : i < 6) : 0 ≤ 2 ∧ 2 < 3 := by decide

/-- SPFKinSpaceR line 169: xbar[i, 2] axis 0 -/
theorem SPFKinSpaceR_31 (i : Int)  (h0 : 0 ≤ i) (h1 : i < 6) : 0 ≤ i ∧ i < 6 := by omega

/-- SPFKinSpaceR line 169: xbar[i, 2] axis 1 -/
theorem SPFKinSpaceR_32 (i : Int)  (h0 : 0 ≤ i) (h1 : i < 6) : 0 ≤ 2 ∧ 2 < 3 := by decide

/-- SPFKinSpaceR line 166: angs[4] axis 0 -/
theorem SPFKinSpaceR_33 (i : Int)  (h0 : 0 ≤ i) (h1 : i < 6) : 0 ≤ 4 ∧ 4 < 6 := by decide

/-- SPFKinSpaceR line 167: xbar[i, 1] axis 0 -/
theorem SPFKinSpaceR_34 (i : Int)  (h0 : 0 ≤ i) (h1 : i < 6) : 0 ≤ i ∧ i < 6 := by omega

/-- SPFKinSpaceR line 167: xbar[i, 1] axis 1 -/
theorem SPFKinSpaceR_35 (i : Int)  (h0 : 0 ≤ i) (h1 : i < 6) : 0 ≤ 1 ∧ 1 < 3 := by decide

/-- SPFKinSpaceR line 167: angs[5] axis 0 -/
theorem SPFKinSpaceR_36 (i : Int)  (h0 : 0 ≤ i) (h1 : i < 6) : 0 ≤ 5 ∧ 5 < 6 := by decide

/-- SPFKinSpaceR line 168: top_joints_init[i, 0] axis 0 -/
theorem SPFKinSpaceR_37 (i : Int)  (h0 : 0 ≤ i) (h1 : i < 6) : 0 ≤ i ∧ i < 6 := by omega

/-- SPFKinSpaceR line 168: top_joints_init[i, 0] axis 1 -/
theorem SPFKinSpaceR_38 (i : Int)  (h0 : 0 ≤ i) (h1 : i < 6) : 0 ≤ 0 ∧ 0 < 3 := by decide

/-- SPFKinSpaceR line 168: angs[2] axis 0 -/
theorem SPFKinSpaceR_39 (i : Int)  (h0 : 0 ≤ i) (h1 : i < 6) : 0 ≤ 2 ∧ 2 < 6 := by decide

/-- SPFKinSpaceR line 169: angs[1] axis 0 -/
theorem SPFKinSpaceR_40 (i : Int)  (h0 : 0 ≤ i) (h1 : i < 6) : 0 ≤ 1 ∧ 1 < 6 := by decide

/-- SPFKinSpaceR line 166: xbar[i, 0] axis 0 -/
theorem SPFKinSpaceR_41 (i : Int)  (h0 : 0 ≤ i) (h1 : i < 6) : 0 ≤ i ∧ i < 6 := by omega

/-- SPFKinSpaceR line 166: xbar[i, 0] axis 1 -/
theorem SPFKinSpaceR_42 (i : Int)  (h0 : 0 ≤ i) (h1 : i < 6) : 0 ≤ 0 ∧ 0 < 3 := by decide

/-- SPFKinSpaceR line 169: top_joints_init[i, 1] axis 0 -/
theorem SPFKinSpaceR_43 (i : Int)  (h0 : 0 ≤ i) (h1 : i < 6) : 0 ≤ i ∧ i < 6 := by omega

/-- SPFKinSpaceR line 169: top_joints_init[i, 1] axis 1 -/
theorem SPFKinSpaceR_44 (i : Int)  (h0 : 0 ≤ i) (h1 : i < 6) : 0 ≤ 1 ∧ 1 < 3 := by decide

/-- SPFKinSpaceR line 169: angs[3] axis 0 -/
theorem SPFKinSpaceR_45 (i : Int)  (h0 : 0 ≤ i) (h1 : i < 6) : 0 ≤ 3 ∧ 3 < 6 := by decide

/-- SPFKinSpaceR line 166: dfda[i, 4] axis 0 -/
theorem SPFKinSpaceR_46 (i : Int)  (h0 : 0 ≤ i) (h1 : i < 6) : 0 ≤ i ∧ i < 6 := by omega

/-- SPFKinSpaceR line 166: dfda[i, 4] axis 1 -/
theorem SPFKinSpaceR_47 (i : Int)  (h0 : 0 ≤ i) (h1 : i < 6) : 0 ≤ 4 ∧ 4 < 6 := by decide

/-- SPFKinSpaceR line 170: top_joints_init[i, 1] axis 0 -/
theorem SPFKinSpaceR_48 (i : Int)  (h0 : 0 ≤ i) (h1 : i < 6) : 0 ≤ i ∧ i < 6 := by omega

/-- SPFKinSpaceR line 170: top_joints_init[i, 1] axis 1 -/
theorem SPFKinSpaceR_49 (i : Int)  (h0 : 0 ≤ i) (h1 : i < 6) : 0 ≤ 1 ∧ 1 < 3 := by decide

/-- SPFKinSpaceR line 170: xbar[i, :] axis 0 -/
theorem SPFKinSpaceR_50 (i : Int)  (h0 : 0 ≤ i) (h1 : i < 6) : 0 ≤ i ∧ i < 6 := by omega

/-- SPFKinSpaceR line 170: xbar[i, :] axis 1 -/
theorem SPFKinSpaceR_51 (i : Int)  (h0 : 0 ≤ i) (h1 : i < 6) : 0 ≤ 0 ∧ 0 ≤ 3 ∧ 3 ≤ 3 := by decide

/-- SPFKinSpaceR line 170: Rzyx[:, 2] axis 0 -/
theorem SPFKinSpaceR_52 (i : Int)  (h0 : 0 ≤ i) (h1 : i < 6) : 0 ≤ 0 ∧ 0 ≤ 3 ∧ 3 ≤ 3 := by decide

/-- SPFKinSpaceR line 170: Rzyx[:, 2] axis 1 -/
theorem SPFKinSpaceR_53 (i : Int)  (h0 : 0 ≤ i) (h1 : i < 6) : 0 ≤ 2 ∧ 2 < 3 := by decide

/-- SPFKinSpaceR line 170: dfda[i, 3] axis 0 -/
theorem SPFKinSpaceR_54 (i : Int)  (h0 : 0 ≤ i) (h1 : i < 6) : 0 ≤ i ∧ i < 6 := by omega

/-- SPFKinSpaceR line 170: dfda[i, 3] axis 1 -/
theorem SPFKinSpaceR_55 (i : Int)  (h0 : 0 ≤ i) (h1 : i < 6) : 0 ≤ 3 ∧ 3 < 6 := by decide

/-- TrVec line 198: vector_4[0:3] axis 0 -/
theorem TrVec_0   : 0 ≤ 0 ∧ 0 ≤ 3 ∧ 3 ≤ 4 := by decide

/-- TrVec line 200: new_vec[0:3] axis 0 -/
theorem TrVec_1   : 0 ≤ 0 ∧ 0 ≤ 3 ∧ 3 ≤ 4 := by decide

/-- site_FK line 196: arm_model.py line 196 (FK): FKinSpace(M=self._end_effector_home.gTM()) axis 0 has the documented extent -/
theorem site_FK_0 (i n : Int)  (h0 : 0 ≤ n) (h1 : 0 ≤ i) (h2 : i < n) : 4 = 4 := by decide

/-- site_FK line 196: arm_model.py line 196 (FK): FKinSpace(M=self._end_effector_home.gTM()) axis 1 has the documented extent -/
theorem site_FK_1 (i n : Int)  (h0 : 0 ≤ n) (h1 : 0 ≤ i) (h2 : i < n) : 4 = 4 := by decide

/-- site_FK line 196: arm_model.py line 196 (FK): FKinSpace(Slist=self.screw_list) axis 0 has the documented extent -/
theorem site_FK_2 (i n : Int)  (h0 : 0 ≤ n) (h1 : 0 ≤ i) (h2 : i < n) : 6 = 6 := by decide

/-- site_FK line 196: arm_model.py line 196 (FK): FKinSpace(thetalist=theta) axis 0 agrees with Slist axis 1 -/
theorem site_FK_3 (i n : Int)  (h0 : 0 ≤ n) (h1 : 0 ≤ i) (h2 : i < n) : n = n := by omega

/-- site_FKJoint line 243: arm_model.py line 243 (FKJoint): slice self.screw_list[0:6, 0:i + 1] stays inside axis 0 of self.screw_list -/
theorem site_FKJoint_0 (i n : Int)  (h0 : 0 ≤ n) (h1 : 0 ≤ i) (h2 : i < n) : 0 ≤ 0 ∧ 0 ≤ 6 ∧ 6 ≤ 6 := by decide

/-- site_FKJoint line 243: arm_model.py line 243 (FKJoint): slice self.screw_list[0:6, 0:i + 1] stays inside axis 1 of self.screw_list -/
theorem site_FKJoint_1 (i n : Int)  (h0 : 0 ≤ n) (h1 : 0 ≤ i) (h2 : i < n) : 0 ≤ 0 ∧ 0 ≤ (i + 1) ∧ (i + 1) ≤ n := by omega

/-- site_FKJoint line 242: arm_model.py line 242 (FKJoint): FKinSpace(Slist=self.screw_list[0:6, 0:i + 1]) axis 0 has the documented extent -/
theorem site_FKJoint_2 (i n : Int)  (h0 : 0 ≤ n) (h1 : 0 ≤ i) (h2 : i < n) : 6 = 6 := by decide

/-- site_FKJoint line 243: arm_model.py line 243 (FKJoint): slice theta[0:i + 1] stays inside axis 0 of theta -/
theorem site_FKJoint_3 (i n : Int)  (h0 : 0 ≤ n) (h1 : 0 ≤ i) (h2 : i < n) : 0 ≤ 0 ∧ 0 ≤ (i + 1) ∧ (i + 1) ≤ n := by omega

/-- site_FKJoint line 242: arm_model.py line 242 (FKJoint): FKinSpace(thetalist=theta[0:i + 1]) axis 0 agrees with Slist axis 1 -/
theorem site_FKJoint_4 (i n : Int)  (h0 : 0 ≤ n) (h1 : 0 ≤ i) (h2 : i < n) : (i + 1) = (i + 1) := by omega

/-- site_FKLink line 218: arm_model.py line 218 (FKLink): FKinSpace(M=self._link_homes_global[i].TM) axis 0 has the documented extent -/
theorem site_FKLink_0 (i n : Int)  (h0 : 0 ≤ n) (h1 : 0 ≤ i) (h2 : i < n) : 4 = 4 := by decide

/-- site_FKLink line 218: arm_model.py line 218 (FKLink): FKinSpace(M=self._link_homes_global[i].TM) axis 1 has the documented extent -/
theorem site_FKLink_1 (i n : Int)  (h0 : 0 ≤ n) (h1 : 0 ≤ i) (h2 : i < n) : 4 = 4 := by decide

/-- site_FKLink line 219: arm_model.py line 219 (FKLink): slice self.screw_list[0:6, 0:i + 1] stays inside axis 0 of self.screw_list -/
theorem site_FKLink_2 (i n : Int)  (h0 : 0 ≤ n) (h1 : 0 ≤ i) (h2 : i < n) : 0 ≤ 0 ∧ 0 ≤ 6 ∧ 6 ≤ 6 := by decide

/-- site_FKLink line 219: arm_model.py line 219 (FKLink): slice self.screw_list[0:6, 0:i + 1] stays inside axis 1 of self.screw_list -/
theorem site_FKLink_3 (i n : Int)  (h0 : 0 ≤ n) (h1 : 0 ≤ i) (h2 : i < n) : 0 ≤ 0 ∧ 0 ≤ (i + 1) ∧ (i + 1) ≤ n := by omega

/-- site_FKLink line 218: arm_model.py line 218 (FKLink): FKinSpace(Slist=self.screw_list[0:6, 0:i + 1]) axis 0 has the documented extent -/
theorem site_FKLink_4 (i n : Int)  (h0 : 0 ≤ n) (h1 : 0 ≤ i) (h2 : i < n) : 6 = 6 := by decide

/-- site_FKLink line 219: arm_model.py line 219 (FKLink): slice theta[0:i + 1] stays inside axis 0 of theta -/
theorem site_FKLink_5 (i n : Int)  (h0 : 0 ≤ n) (h1 : 0 ≤ i) (h2 : i < n) : 0 ≤ 0 ∧ 0 ≤ (i + 1) ∧ (i + 1) ≤ n := by omega

/-- site_FKLink line 218: arm_model.py line 218 (FKLink): FKinSpace(thetalist=theta[0:i + 1]) axis 0 agrees with Slist axis 1 -/
theorem site_FKLink_6 (i n : Int)  (h0 : 0 ≤ n) (h1 : 0 ≤ i) (h2 : i < n) : (i + 1) = (i + 1) := by omega

/-- site_IK line 270: arm_model.py line 270 (IK): IKinSpace(Slist=self.screw_list) axis 0 has the documented extent -/
theorem site_IK_0 (i n : Int)  (h0 : 0 ≤ n) (h1 : 0 ≤ i) (h2 : i < n) : 6 = 6 := by decide

/-- site_IK line 270: arm_model.py line 270 (IK): IKinSpace(M=self._end_effector_home.gTM()) axis 0 has the documented extent -/
theorem site_IK_1 (i n : Int)  (h0 : 0 ≤ n) (h1 : 0 ≤ i) (h2 : i < n) : 4 = 4 := by decide

/-- site_IK line 270: arm_model.py line 270 (IK): IKinSpace(M=self._end_effector_home.gTM()) axis 1 has the documented extent -/
theorem site_IK_2 (i n : Int)  (h0 : 0 ≤ n) (h1 : 0 ≤ i) (h2 : i < n) : 4 = 4 := by decide

/-- site_IK line 270: arm_model.py line 270 (IK): IKinSpace(T=goal_position.gTM()) axis 0 has the documented extent -/
theorem site_IK_3 (i n : Int)  (h0 : 0 ≤ n) (h1 : 0 ≤ i) (h2 : i < n) : 4 = 4 := by decide

/-- site_IK line 270: arm_model.py line 270 (IK): IKinSpace(T=goal_position.gTM()) axis 1 has the documented extent -/
theorem site_IK_4 (i n : Int)  (h0 : 0 ≤ n) (h1 : 0 ≤ i) (h2 : i < n) : 4 = 4 := by decide

/-- site_IK line 270: arm_model.py line 270 (IK): IKinSpace(thetalist0=theta_init) axis 0 agrees with Slist axis 1 -/
theorem site_IK_5 (i n : Int)  (h0 : 0 ≤ n) (h1 : 0 ≤ i) (h2 : i < n) : n = n := by omega

/-- site_IK line 285: arm_model.py line 285 (IK): IKinSpace(Slist=self.screw_list) axis 0 has the documented extent -/
theorem site_IK_6 (i n : Int)  (h0 : 0 ≤ n) (h1 : 0 ≤ i) (h2 : i < n) : 6 = 6 := by decide

/-- site_IK line 285: arm_model.py line 285 (IK): IKinSpace(M=self._end_effector_home.gTM()) axis 0 has the documented extent -/
theorem site_IK_7 (i n : Int)  (h0 : 0 ≤ n) (h1 : 0 ≤ i) (h2 : i < n) : 4 = 4 := by decide

/-- site_IK line 285: arm_model.py line 285 (IK): IKinSpace(M=self._end_effector_home.gTM()) axis 1 has the documented extent -/
theorem site_IK_8 (i n : Int)  (h0 : 0 ≤ n) (h1 : 0 ≤ i) (h2 : i < n) : 4 = 4 := by decide

/-- site_IK line 285: arm_model.py line 285 (IK): IKinSpace(T=goal_position.gTM()) axis 0 has the documented extent -/
theorem site_IK_9 (i n : Int)  (h0 : 0 ≤ n) (h1 : 0 ≤ i) (h2 : i < n) : 4 = 4 := by decide

/-- site_IK line 285: arm_model.py line 285 (IK): IKinSpace(T=goal_position.gTM()) axis 1 has the documented extent -/
theorem site_IK_10 (i n : Int)  (h0 : 0 ≤ n) (h1 : 0 ≤ i) (h2 : i < n) : 4 = 4 := by decide

/-- site_IK line 285: arm_model.py line 285 (IK): IKinSpace(thetalist0=theta_temp) axis 0 agrees with Slist axis 1 -/
theorem site_IK_11 (i n : Int)  (h0 : 0 ≤ n) (h1 : 0 ≤ i) (h2 : i < n) : n = n := by omega

/-- site_TAAtoTM line 231: faser_transform.py line 231 (TAAtoTM): MatrixExp3(so3mat=mr.VecToso3(self.TAA[3:6].flatten())) axis 0 has the documented extent -/
theorem site_TAAtoTM_0 (i n : Int)  (h0 : 0 ≤ n) (h1 : 0 ≤ i) (h2 : i < n) : 3 = 3 := by decide

/-- site_TAAtoTM line 231: faser_transform.py line 231 (TAAtoTM): MatrixExp3(so3mat=mr.VecToso3(self.TAA[3:6].flatten())) axis 1 has the documented extent -/
theorem site_TAAtoTM_1 (i n : Int)  (h0 : 0 ≤ n) (h1 : 0 ≤ i) (h2 : i < n) : 3 = 3 := by decide

/-- site_TAAtoTM line 231: faser_transform.py line 231 (TAAtoTM): slice self.TAA[3:6] stays inside axis 0 of self.TAA -/
theorem site_TAAtoTM_2 (i n : Int)  (h0 : 0 ≤ n) (h1 : 0 ≤ i) (h2 : i < n) : 0 ≤ 3 ∧ 3 ≤ 6 ∧ 6 ≤ 6 := by decide

/-- site_TAAtoTM line 231: faser_transform.py line 231 (TAAtoTM): VecToso3(omg=self.TAA[3:6].flatten()) axis 0 has the documented extent -/
theorem site_TAAtoTM_3 (i n : Int)  (h0 : 0 ≤ n) (h1 : 0 ≤ i) (h2 : i < n) : (6 - 3) = 3 := by decide

/-- site_TAAtoTM line 17: basic_helpers.py line 17 (TAAtoTM): MatrixExp3(so3mat=mr.VecToso3(taa_format[3:6])) axis 0 has the documented extent -/
theorem site_TAAtoTM_4 (i n : Int)  (h0 : 0 ≤ n) (h1 : 0 ≤ i) (h2 : i < n) : 3 = 3 := by decide

/-- site_TAAtoTM line 17: basic_helpers.py line 17 (TAAtoTM): MatrixExp3(so3mat=mr.VecToso3(taa_format[3:6])) axis 1 has the documented extent -/
theorem site_TAAtoTM_5 (i n : Int)  (h0 : 0 ≤ n) (h1 : 0 ≤ i) (h2 : i < n) : 3 = 3 := by decide

/-- site_TAAtoTM line 17: basic_helpers.py line 17 (TAAtoTM): slice taa_format[3:6] stays inside axis 0 of taa_format -/
theorem site_TAAtoTM_6 (i n : Int)  (h0 : 0 ≤ n) (h1 : 0 ≤ i) (h2 : i < n) : 0 ≤ 3 ∧ 3 ≤ 6 ∧ 6 ≤ 6 := by decide

/-- site_TAAtoTM line 17: basic_helpers.py line 17 (TAAtoTM): VecToso3(omg=taa_format[3:6]) axis 0 has the documented extent -/
theorem site_TAAtoTM_7 (i n : Int)  (h0 : 0 ≤ n) (h1 : 0 ≤ i) (h2 : i < n) : (6 - 3) = 3 := by decide

/-- site_TMtoTAA line 237: faser_transform.py line 237 (TMtoTAA): TransToRp(T=self.TM) axis 0 has the documented extent -/
theorem site_TMtoTAA_0 (i n : Int)  (h0 : 0 ≤ n) (h1 : 0 ≤ i) (h2 : i < n) : 4 = 4 := by decide

/-- site_TMtoTAA line 237: faser_transform.py line 237 (TMtoTAA): TransToRp(T=self.TM) axis 1 has the documented extent -/
theorem site_TMtoTAA_1 (i n : Int)  (h0 : 0 ≤ n) (h1 : 0 ≤ i) (h2 : i < n) : 4 = 4 := by decide

/-- site_TMtoTAA line 238: faser_transform.py line 238 (TMtoTAA): so3ToVec(so3mat=mr.MatrixLog3(rotation)) axis 0 has the documented extent -/
theorem site_TMtoTAA_2 (i n : Int)  (h0 : 0 ≤ n) (h1 : 0 ≤ i) (h2 : i < n) : 3 = 3 := by decide

/-- site_TMtoTAA line 238: faser_transform.py line 238 (TMtoTAA): so3ToVec(so3mat=mr.MatrixLog3(rotation)) axis 1 has the documented extent -/
theorem site_TMtoTAA_3 (i n : Int)  (h0 : 0 ≤ n) (h1 : 0 ≤ i) (h2 : i < n) : 3 = 3 := by decide

/-- site_TMtoTAA line 34: basic_helpers.py line 34 (TMtoTAA): so3ToVec(so3mat=mr.MatrixLog3(rotation_matrix)) axis 0 has the documented extent -/
theorem site_TMtoTAA_4 (i n : Int)  (h0 : 0 ≤ n) (h1 : 0 ≤ i) (h2 : i < n) : 3 = 3 := by decide

/-- site_TMtoTAA line 34: basic_helpers.py line 34 (TMtoTAA): so3ToVec(so3mat=mr.MatrixLog3(rotation_matrix)) axis 1 has the documented extent -/
theorem site_TMtoTAA_5 (i n : Int)  (h0 : 0 ≤ n) (h1 : 0 ≤ i) (h2 : i < n) : 3 = 3 := by decide

/-- site__FKRaphson line 1044: sp_model.py line 1044 (_FKRaphson): SPFKinSpaceR(leg_lengths=L) axis 0 has the documented extent -/
theorem site__FKRaphson_0 (i n : Int)  (h0 : 0 ≤ n) (h1 : 0 ≤ i) (h2 : i < n) : 6 = 6 := by decide

/-- site__FKRaphson line 1044: sp_model.py line 1044 (_FKRaphson): SPFKinSpaceR(top_plate_init=attempt) axis 0 has the documented extent -/
theorem site__FKRaphson_1 (i n : Int)  (h0 : 0 ≤ n) (h1 : 0 ≤ i) (h2 : i < n) : 6 = 6 := by decide

/-- site__FKRaphson line 1044: sp_model.py line 1044 (_FKRaphson): SPFKinSpaceR(bottom_joints_init=self._bottom_joints_init) axis 0 has the documented extent -/
theorem site__FKRaphson_2 (i n : Int)  (h0 : 0 ≤ n) (h1 : 0 ≤ i) (h2 : i < n) : 6 = 6 := by decide

/-- site__FKRaphson line 1044: sp_model.py line 1044 (_FKRaphson): SPFKinSpaceR(bottom_joints_init=self._bottom_joints_init) axis 1 has the documented extent -/
theorem site__FKRaphson_3 (i n : Int)  (h0 : 0 ≤ n) (h1 : 0 ≤ i) (h2 : i < n) : 3 = 3 := by decide

/-- site__FKRaphson line 1044: sp_model.py line 1044 (_FKRaphson): SPFKinSpaceR(top_joints_init=self._top_joints_init) axis 0 has the documented extent -/
theorem site__FKRaphson_4 (i n : Int)  (h0 : 0 ≤ n) (h1 : 0 ≤ i) (h2 : i < n) : 6 = 6 := by decide

/-- site__FKRaphson line 1044: sp_model.py line 1044 (_FKRaphson): SPFKinSpaceR(top_joints_init=self._top_joints_init) axis 1 has the documented extent -/
theorem site__FKRaphson_5 (i n : Int)  (h0 : 0 ≤ n) (h1 : 0 ≤ i) (h2 : i < n) : 3 = 3 := by decide

/-- site__FKRaphson line 1053: sp_model.py line 1053 (_FKRaphson): SPFKinSpaceR(leg_lengths=L) axis 0 has the documented extent -/
theorem site__FKRaphson_6 (i n : Int)  (h0 : 0 ≤ n) (h1 : 0 ≤ i) (h2 : i < n) : 6 = 6 := by decide

/-- site__FKRaphson line 1053: sp_model.py line 1053 (_FKRaphson): SPFKinSpaceR(top_plate_init=attempt) axis 0 has the documented extent -/
theorem site__FKRaphson_7 (i n : Int)  (h0 : 0 ≤ n) (h1 : 0 ≤ i) (h2 : i < n) : 6 = 6 := by decide

/-- site__FKRaphson line 1053: sp_model.py line 1053 (_FKRaphson): SPFKinSpaceR(bottom_joints_init=self._bottom_joints_init) axis 0 has the documented extent -/
theorem site__FKRaphson_8 (i n : Int)  (h0 : 0 ≤ n) (h1 : 0 ≤ i) (h2 : i < n) : 6 = 6 := by decide

/-- site__FKRaphson line 1053: sp_model.py line 1053 (_FKRaphson): SPFKinSpaceR(bottom_joints_init=self._bottom_joints_init) axis 1 has the documented extent -/
theorem site__FKRaphson_9 (i n : Int)  (h0 : 0 ≤ n) (h1 : 0 ≤ i) (h2 : i < n) : 3 = 3 := by decide

/-- site__FKRaphson line 1053: sp_model.py line 1053 (_FKRaphson): SPFKinSpaceR(top_joints_init=self._top_joints_init) axis 0 has the documented extent -/
theorem site__FKRaphson_10 (i n : Int)  (h0 : 0 ≤ n) (h1 : 0 ≤ i) (h2 : i < n) : 6 = 6 := by decide

/-- site__FKRaphson line 1053: sp_model.py line 1053 (_FKRaphson): SPFKinSpaceR(top_joints_init=self._top_joints_init) axis 1 has the documented extent -/
theorem site__FKRaphson_11 (i n : Int)  (h0 : 0 ≤ n) (h1 : 0 ≤ i) (h2 : i < n) : 3 = 3 := by decide

/-- site__IKHelper line 945: sp_model.py line 945 (_IKHelper): SPIKinSpace(bottom_transform=bottom_plate_pos.gTM()) axis 0 has the documented extent -/
theorem site__IKHelper_0 (i n : Int)  (h0 : 0 ≤ n) (h1 : 0 ≤ i) (h2 : i < n) : 4 = 4 := by decide

/-- site__IKHelper line 945: sp_model.py line 945 (_IKHelper): SPIKinSpace(bottom_transform=bottom_plate_pos.gTM()) axis 1 has the documented extent -/
theorem site__IKHelper_1 (i n : Int)  (h0 : 0 ≤ n) (h1 : 0 ≤ i) (h2 : i < n) : 4 = 4 := by decide

/-- site__IKHelper line 945: sp_model.py line 945 (_IKHelper): SPIKinSpace(top_transform=top_plate_pos.gTM()) axis 0 has the documented extent -/
theorem site__IKHelper_2 (i n : Int)  (h0 : 0 ≤ n) (h1 : 0 ≤ i) (h2 : i < n) : 4 = 4 := by decide

/-- site__IKHelper line 945: sp_model.py line 945 (_IKHelper): SPIKinSpace(top_transform=top_plate_pos.gTM()) axis 1 has the documented extent -/
theorem site__IKHelper_3 (i n : Int)  (h0 : 0 ≤ n) (h1 : 0 ≤ i) (h2 : i < n) : 4 = 4 := by decide

/-- site__IKHelper line 945: sp_model.py line 945 (_IKHelper): SPIKinSpace(bottom_joints=self._bottom_joints_local) axis 0 has the documented extent -/
theorem site__IKHelper_4 (i n : Int)  (h0 : 0 ≤ n) (h1 : 0 ≤ i) (h2 : i < n) : 3 = 3 := by decide

/-- site__IKHelper line 945: sp_model.py line 945 (_IKHelper): SPIKinSpace(bottom_joints=self._bottom_joints_local) axis 1 has the documented extent -/
theorem site__IKHelper_5 (i n : Int)  (h0 : 0 ≤ n) (h1 : 0 ≤ i) (h2 : i < n) : 6 = 6 := by decide

/-- site__IKHelper line 945: sp_model.py line 945 (_IKHelper): SPIKinSpace(top_joints=self._top_joints_local) axis 0 has the documented extent -/
theorem site__IKHelper_6 (i n : Int)  (h0 : 0 ≤ n) (h1 : 0 ≤ i) (h2 : i < n) : 3 = 3 := by decide

/-- site__IKHelper line 945: sp_model.py line 945 (_IKHelper): SPIKinSpace(top_joints=self._top_joints_local) axis 1 has the documented extent -/
theorem site__IKHelper_7 (i n : Int)  (h0 : 0 ≤ n) (h1 : 0 ≤ i) (h2 : i < n) : 6 = 6 := by decide

/-- site__IKHelper line 945: sp_model.py line 945 (_IKHelper): SPIKinSpace(bottom_joint_locations=self._bottom_joints_space) axis 0 has the documented extent -/
theorem site__IKHelper_8 (i n : Int)  (h0 : 0 ≤ n) (h1 : 0 ≤ i) (h2 : i < n) : 3 = 3 := by decide

/-- site__IKHelper line 945: sp_model.py line 945 (_IKHelper): SPIKinSpace(bottom_joint_locations=self._bottom_joints_space) axis 1 has the documented extent -/
theorem site__IKHelper_9 (i n : Int)  (h0 : 0 ≤ n) (h1 : 0 ≤ i) (h2 : i < n) : 6 = 6 := by decide

/-- site__IKHelper line 945: sp_model.py line 945 (_IKHelper): SPIKinSpace(top_joint_locations=self._top_joints_space) axis 0 has the documented extent -/
theorem site__IKHelper_10 (i n : Int)  (h0 : 0 ≤ n) (h1 : 0 ≤ i) (h2 : i < n) : 3 = 3 := by decide

/-- site__IKHelper line 945: sp_model.py line 945 (_IKHelper): SPIKinSpace(top_joint_locations=self._top_joints_space) axis 1 has the documented extent -/
theorem site__IKHelper_11 (i n : Int)  (h0 : 0 ≤ n) (h1 : 0 ≤ i) (h2 : i < n) : 6 = 6 := by decide

/-- site__helper_update_body_screws line 1456: arm_model.py line 1456 (_helper_update_body_screws): Adjoint(T=self._end_effector_home.inv().gTM()) axis 0 has the documented extent -/
theorem site__helper_update_body_screws_0 (i n : Int)  (h0 : 0 ≤ n) (h1 : 0 ≤ i) (h2 : i < n) : 4 = 4 := by decide

/-- site__helper_update_body_screws line 1456: arm_model.py line 1456 (_helper_update_body_screws): Adjoint(T=self._end_effector_home.inv().gTM()) axis 1 has the documented extent -/
theorem site__helper_update_body_screws_1 (i n : Int)  (h0 : 0 ≤ n) (h1 : 0 ≤ i) (h2 : i < n) : 4 = 4 := by decide

/-- site_adjoint line 249: faser_transform.py line 249 (adjoint): Adjoint(T=self.TM) axis 0 has the documented extent -/
theorem site_adjoint_0 (i n : Int)  (h0 : 0 ≤ n) (h1 : 0 ≤ i) (h2 : i < n) : 4 = 4 := by decide

/-- site_adjoint line 249: faser_transform.py line 249 (adjoint): Adjoint(T=self.TM) axis 1 has the documented extent -/
theorem site_adjoint_1 (i n : Int)  (h0 : 0 ≤ n) (h1 : 0 ≤ i) (h2 : i < n) : 4 = 4 := by decide

/-- site_constrainedIK line 326: arm_model.py line 326 (constrainedIK): IKinSpaceConstrained(ee_home=end_effector_home_c.gTM()) axis 0 has the documented extent -/
theorem site_constrainedIK_0 (i n : Int)  (h0 : 0 ≤ n) (h1 : 0 ≤ i) (h2 : i < n) : 4 = 4 := by decide

/-- site_constrainedIK line 326: arm_model.py line 326 (constrainedIK): IKinSpaceConstrained(ee_home=end_effector_home_c.gTM()) axis 1 has the documented extent -/
theorem site_constrainedIK_1 (i n : Int)  (h0 : 0 ≤ n) (h1 : 0 ≤ i) (h2 : i < n) : 4 = 4 := by decide

/-- site_constrainedIK line 326: arm_model.py line 326 (constrainedIK): IKinSpaceConstrained(ee_goal=goal_position.gTM()) axis 0 has the documented extent -/
theorem site_constrainedIK_2 (i n : Int)  (h0 : 0 ≤ n) (h1 : 0 ≤ i) (h2 : i < n) : 4 = 4 := by decide

/-- site_constrainedIK line 326: arm_model.py line 326 (constrainedIK): IKinSpaceConstrained(ee_goal=goal_position.gTM()) axis 1 has the documented extent -/
theorem site_constrainedIK_3 (i n : Int)  (h0 : 0 ≤ n) (h1 : 0 ≤ i) (h2 : i < n) : 4 = 4 := by decide

/-- site_constrainedIK line 326: arm_model.py line 326 (constrainedIK): IKinSpaceConstrained(joint_mins=self.joint_mins) axis 0 agrees with theta_list axis 0 -/
theorem site_constrainedIK_4 (i n : Int)  (h0 : 0 ≤ n) (h1 : 0 ≤ i) (h2 : i < n) : n = n := by omega

/-- site_constrainedIK line 326: arm_model.py line 326 (constrainedIK): IKinSpaceConstrained(joint_maxs=self.joint_maxs) axis 0 agrees with theta_list axis 0 -/
theorem site_constrainedIK_5 (i n : Int)  (h0 : 0 ≤ n) (h1 : 0 ≤ i) (h2 : i < n) : n = n := by omega

/-- site_constrainedIK line 342: arm_model.py line 342 (constrainedIK): IKinSpaceConstrained(ee_home=end_effector_home_c.gTM()) axis 0 has the documented extent -/
theorem site_constrainedIK_6 (i n : Int)  (h0 : 0 ≤ n) (h1 : 0 ≤ i) (h2 : i < n) : 4 = 4 := by decide

/-- site_constrainedIK line 342: arm_model.py line 342 (constrainedIK): IKinSpaceConstrained(ee_home=end_effector_home_c.gTM()) axis 1 has the documented extent -/
theorem site_constrainedIK_7 (i n : Int)  (h0 : 0 ≤ n) (h1 : 0 ≤ i) (h2 : i < n) : 4 = 4 := by decide

/-- site_constrainedIK line 342: arm_model.py line 342 (constrainedIK): IKinSpaceConstrained(ee_goal=goal_position.gTM()) axis 0 has the documented extent -/
theorem site_constrainedIK_8 (i n : Int)  (h0 : 0 ≤ n) (h1 : 0 ≤ i) (h2 : i < n) : 4 = 4 := by decide

/-- site_constrainedIK line 342: arm_model.py line 342 (constrainedIK): IKinSpaceConstrained(ee_goal=goal_position.gTM()) axis 1 has the documented extent -/
theorem site_constrainedIK_9 (i n : Int)  (h0 : 0 ≤ n) (h1 : 0 ≤ i) (h2 : i < n) : 4 = 4 := by decide

/-- site_constrainedIK line 342: arm_model.py line 342 (constrainedIK): IKinSpaceConstrained(joint_mins=self.joint_mins) axis 0 agrees with theta_list axis 0 -/
theorem site_constrainedIK_10 (i n : Int)  (h0 : 0 ≤ n) (h1 : 0 ≤ i) (h2 : i < n) : n = n := by omega

/-- site_constrainedIK line 342: arm_model.py line 342 (constrainedIK): IKinSpaceConstrained(joint_maxs=self.joint_maxs) axis 0 agrees with theta_list axis 0 -/
theorem site_constrainedIK_11 (i n : Int)  (h0 : 0 ≤ n) (h1 : 0 ≤ i) (h2 : i < n) : n = n := by omega

/-- site_exp6 line 258: faser_transform.py line 258 (exp6): MatrixExp6(se3mat=mr.VecTose3(self.TAA.flatten())) axis 0 has the documented extent -/
theorem site_exp6_0 (i n : Int)  (h0 : 0 ≤ n) (h1 : 0 ≤ i) (h2 : i < n) : 4 = 4 := by decide

/-- site_exp6 line 258: faser_transform.py line 258 (exp6): MatrixExp6(se3mat=mr.VecTose3(self.TAA.flatten())) axis 1 has the documented extent -/
theorem site_exp6_1 (i n : Int)  (h0 : 0 ≤ n) (h1 : 0 ≤ i) (h2 : i < n) : 4 = 4 := by decide

/-- site_exp6 line 258: faser_transform.py line 258 (exp6): VecTose3(V=self.TAA.flatten()) axis 0 has the documented extent -/
theorem site_exp6_2 (i n : Int)  (h0 : 0 ≤ n) (h1 : 0 ≤ i) (h2 : i < n) : 6 = 6 := by decide

/-- site_globalToLocal line 62: basic_helpers.py line 62 (globalToLocal): GlobalToLocal(reference=reference.gTAA()) axis 0 has the documented extent -/
theorem site_globalToLocal_0 (i n : Int)  (h0 : 0 ≤ n) (h1 : 0 ≤ i) (h2 : i < n) : 6 = 6 := by decide

/-- site_globalToLocal line 62: basic_helpers.py line 62 (globalToLocal): GlobalToLocal(rel=rel.gTAA()) axis 0 has the documented extent -/
theorem site_globalToLocal_1 (i n : Int)  (h0 : 0 ≤ n) (h1 : 0 ≤ i) (h2 : i < n) : 6 = 6 := by decide

/-- site_initialize line 143: arm_model.py line 143 (initialize): Adjoint(T=base_pos_global.gTM()) axis 0 has the documented extent -/
theorem site_initialize_0 (i n : Int)  (h0 : 0 ≤ n) (h1 : 0 ≤ i) (h2 : i < n) : 4 = 4 := by decide

/-- site_initialize line 143: arm_model.py line 143 (initialize): Adjoint(T=base_pos_global.gTM()) axis 1 has the documented extent -/
theorem site_initialize_1 (i n : Int)  (h0 : 0 ≤ n) (h1 : 0 ≤ i) (h2 : i < n) : 4 = 4 := by decide

/-- site_inv line 346: faser_transform.py line 346 (inv): TransInv(T=self.TM) axis 0 has the documented extent -/
theorem site_inv_0 (i n : Int)  (h0 : 0 ≤ n) (h1 : 0 ≤ i) (h2 : i < n) : 4 = 4 := by decide

/-- site_inv line 346: faser_transform.py line 346 (inv): TransInv(T=self.TM) axis 1 has the documented extent -/
theorem site_inv_1 (i n : Int)  (h0 : 0 ≤ n) (h1 : 0 ≤ i) (h2 : i < n) : 4 = 4 := by decide

/-- site_jacobian line 1299: arm_model.py line 1299 (jacobian): JacobianSpace(Slist=self.screw_list) axis 0 has the documented extent -/
theorem site_jacobian_0 (i n : Int)  (h0 : 0 ≤ n) (h1 : 0 ≤ i) (h2 : i < n) : 6 = 6 := by decide

/-- site_jacobian line 1299: arm_model.py line 1299 (jacobian): JacobianSpace(thetalist=theta) axis 0 agrees with Slist axis 1 -/
theorem site_jacobian_1 (i n : Int)  (h0 : 0 ≤ n) (h1 : 0 ≤ i) (h2 : i < n) : n = n := by omega

/-- site_jacobianBody line 1312: arm_model.py line 1312 (jacobianBody): JacobianBody(Blist=self.screw_list_body) axis 0 has the documented extent -/
theorem site_jacobianBody_0 (i n : Int)  (h0 : 0 ≤ n) (h1 : 0 ≤ i) (h2 : i < n) : 6 = 6 := by decide

/-- site_jacobianBody line 1312: arm_model.py line 1312 (jacobianBody): JacobianBody(thetalist=theta) axis 0 agrees with Blist axis 1 -/
theorem site_jacobianBody_1 (i n : Int)  (h0 : 0 ≤ n) (h1 : 0 ≤ i) (h2 : i < n) : n = n := by omega

/-- site_jacobianLink line 1326: arm_model.py line 1326 (jacobianLink): slice self.screw_list[0:6, 0:i + 1] stays inside axis 0 of self.screw_list -/
theorem site_jacobianLink_0 (i n : Int)  (h0 : 0 ≤ n) (h1 : 0 ≤ i) (h2 : i < n) : 0 ≤ 0 ∧ 0 ≤ 6 ∧ 6 ≤ 6 := by decide

/-- site_jacobianLink line 1326: arm_model.py line 1326 (jacobianLink): slice self.screw_list[0:6, 0:i + 1] stays inside axis 1 of self.screw_list -/
theorem site_jacobianLink_1 (i n : Int)  (h0 : 0 ≤ n) (h1 : 0 ≤ i) (h2 : i < n) : 0 ≤ 0 ∧ 0 ≤ (i + 1) ∧ (i + 1) ≤ n := by omega

/-- site_jacobianLink line 1326: arm_model.py line 1326 (jacobianLink): JacobianSpace(Slist=self.screw_list[0:6, 0:i + 1]) axis 0 has the documented extent -/
theorem site_jacobianLink_2 (i n : Int)  (h0 : 0 ≤ n) (h1 : 0 ≤ i) (h2 : i < n) : 6 = 6 := by decide

/-- site_jacobianLink line 1326: arm_model.py line 1326 (jacobianLink): slice theta[0:i + 1] stays inside axis 0 of theta -/
theorem site_jacobianLink_3 (i n : Int)  (h0 : 0 ≤ n) (h1 : 0 ≤ i) (h2 : i < n) : 0 ≤ 0 ∧ 0 ≤ (i + 1) ∧ (i + 1) ≤ n := by omega

/-- site_jacobianLink line 1326: arm_model.py line 1326 (jacobianLink): JacobianSpace(thetalist=theta[0:i + 1]) axis 0 agrees with Slist axis 1 -/
theorem site_jacobianLink_4 (i n : Int)  (h0 : 0 ≤ n) (h1 : 0 ≤ i) (h2 : i < n) : (i + 1) = (i + 1) := by omega

/-- site_localToGlobal line 50: basic_helpers.py line 50 (localToGlobal): LocalToGlobal(reference=reference.gTAA()) axis 0 has the documented extent -/
theorem site_localToGlobal_0 (i n : Int)  (h0 : 0 ≤ n) (h1 : 0 ≤ i) (h2 : i < n) : 6 = 6 := by decide

/-- site_localToGlobal line 50: basic_helpers.py line 50 (localToGlobal): LocalToGlobal(rel=rel.gTAA()) axis 0 has the documented extent -/
theorem site_localToGlobal_1 (i n : Int)  (h0 : 0 ≤ n) (h1 : 0 ≤ i) (h2 : i < n) : 6 = 6 := by decide

end BR.Gen.C17
