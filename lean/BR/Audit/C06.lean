import BR.Props.C06
import BR.Props.C06Deriv
import BR.Props.C06Body
#print axioms BR.C06.jacobianSpace_col
#print axioms BR.C06.jacobianSpaceAux_col
#print axioms BR.C06.statics_power
#print axioms BR.C06.statics_linear
#print axioms BR.Rot.exp6_conj
#print axioms BR.Rot.fkinSpace_conj
#print axioms BR.C06D.hasDeriv_jointExp
#print axioms BR.C06D.exp6_revolute
#print axioms BR.C06D.fk_hasDeriv
#print axioms BR.C06D.jacobianSpace_is_derivative
#print axioms BR.C06L.linkMassTorques_get
#print axioms BR.C06L.linkMassTorques_split
#print axioms BR.C06L.column_dot_weight
#print axioms BR.C06L.column_dot_weight_on_axis
#print axioms BR.C06B.jointExp_neg_mul
#print axioms BR.C06B.adjoint_jointExp_self
#print axioms BR.C06B.jacobianBody_cols
#print axioms BR.C06B.jacobianBody_eq
