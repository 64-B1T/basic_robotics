import BR.Props.C18
import BR.Props.C18Goal
#print axioms BR.C18.plane_contains_points
#print axioms BR.C18.mirror_reflects
#print axioms BR.C18.mirror_involution
#print axioms BR.C18.interpMid_pos
#print axioms BR.C18.interpMid_geodesic
#print axioms BR.C18.lookAt_keeps_pos
#print axioms BR.C18.lookAt_proper
#print axioms BR.C18.distance_metric
#print axioms BR.C18.arcDistance_is_norm
#print axioms BR.C18.closeLinearGap_advance
#print axioms BR.C18.ikPath_shape
#print axioms BR.C18.ikPath_even
#print axioms BR.C18.fibo_unit
#print axioms BR.C18.unitSphere_unit
#print axioms BR.C18.angleMod_mod_2pi
#print axioms BR.C18.angleMod_range
#print axioms BR.C18.angleMod_idem
#print axioms BR.Rot.rod_add
#print axioms BR.Rot.log3_generic_form
#print axioms BR.C18T.twistToGoal_reaches
#print axioms BR.C18A.rel_of_step
#print axioms BR.C18A.closeArcGap_advance
#print axioms BR.C18A.closeArcGap_at_goal
