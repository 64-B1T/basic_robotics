import BR.Props.C10
import BR.Props.C10Rev
#print axioms BR.C10.coh_ikP
#print axioms BR.C10.op_coherent
#print axioms BR.C10.history_coherent
#print axioms BR.C10.validate_sound
#print axioms BR.C10.validateDN_sound
#print axioms BR.C10.op_verdict_sound
#print axioms BR.C10.inverseJacobian_restores
#print axioms BR.C10.fkAt_coh
#print axioms BR.C10.fkAt_sound
#print axioms BR.C10R.validate_noop
#print axioms BR.C10R.allHold_rigid
#print axioms BR.C10R.fkReverse_sound
#print axioms BR.C10R.fk_reverse_sound
