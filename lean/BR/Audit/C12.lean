import BR.Props.C12
#print axioms BR.C12.screw_change_is_Ad
#print axioms BR.C12.wrench_change_is_AdT
#print axioms BR.C12.change_same_frame
#print axioms BR.C12.screw_change_compose
#print axioms BR.C12.screw_change_roundtrip
#print axioms BR.C12.wrench_change_roundtrip
#print axioms BR.C12.pairing_invariant
#print axioms BR.C12.moment_is_p_cross_f
#print axioms BR.C12.zero_moment_at_application
#print axioms BR.C12.add_mixed_frames
#print axioms BR.C12.add_sub_cancel
#print axioms BR.C12.sub_scalar_eq_add_neg
#print axioms BR.C12.rsub_scalar_eq_neg_sub
#print axioms BR.C12.mul_div_cancel
#print axioms BR.C12.add_sub_cancel_mixed
#print axioms BR.C12.sub_add_cancel_mixed
#print axioms BR.C12.arr_add_sub_cancel
#print axioms BR.C12.arr_rsub_eq_neg_sub
