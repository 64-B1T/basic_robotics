import BR.Props.C09
#print axioms BR.C09.ik_is_distance
#print axioms BR.C09.ik_rigid_invariant
#print axioms BR.C09.ik_relative_only
#print axioms BR.C09.fkRes_eq
#print axioms BR.C09.raphson_residual_exit
#print axioms BR.C09.raphson_iters
#print axioms BR.C09.fk_lengths_accurate
#print axioms BR.C09.published_lengths
