import BR.Props.C19
#print axioms BR.C19.inv_step
#print axioms BR.C19.history_inv
#print axioms BR.C19.getData_delivery
#print axioms BR.C19.getData_once_per_destination
#print axioms BR.C19.receive_none_silent
#print axioms BR.C19.unknown_port_silent
#print axioms BR.C19.closed_port_no_data
#print axioms BR.C19.registration_reports_change
#print axioms BR.C19.spin_sources_once
#print axioms BR.C19.callSources_sends
