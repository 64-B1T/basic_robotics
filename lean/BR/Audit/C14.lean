import BR.Props.C14
#print axioms BR.C14.inv_step
#print axioms BR.C14.inv_exec
#print axioms BR.C14.op_no_mutation
#print axioms BR.C14.op_fresh
#print axioms BR.C14.scope_ops_value_semantics
