import BR.Props.C11
#print axioms BR.C11.cross_top_eq_cross_bottom
#print axioms BR.C11.leg_wrench
#print axioms BR.C11.sumActuator_eq_neg
#print axioms BR.C11.statics_balance
#print axioms BR.C11.row_dot_twist
#print axioms BR.C11.hasDerivAt_norm3_sub
#print axioms BR.C11.invJac_is_length_derivative
#print axioms BR.C11B.dot_mulVec_transpose
#print axioms BR.C11B.bodyForces_eq
#print axioms BR.C11C.carryWrench_force
#print axioms BR.C11C.carryWrench_moment
#print axioms BR.C11C.shaftWrenches_force
#print axioms BR.C11C.pointTowards_on_leg
