import BR.Props.C20
#print axioms BR.C20.roundHalfEven_nearest
#print axioms BR.C20.scaled_error
#print axioms BR.C20.cells_rowmajor
#print axioms BR.C20.cell_small
#print axioms BR.C20.chunks_cover
