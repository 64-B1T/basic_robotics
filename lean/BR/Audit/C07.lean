import BR.Props.C07
#print axioms BR.C07.ikc_success_sound
#print axioms BR.C07.ikc_unreachable_never_true
#print axioms BR.C07.ikLoop_range
#print axioms BR.C07.clamp_inLimits
#print axioms BR.C07.ikc_in_limits
#print axioms BR.C07.ik_state_coherent
#print axioms BR.C02.ikLoop_success_sound
#print axioms BR.C02.ikLoop_failure_means_error
