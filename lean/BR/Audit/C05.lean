import BR.Props.C05
#print axioms BR.C05.fk_eq_spec
#print axioms BR.C05.fkRaw_eq_spec
#print axioms BR.C05.FK_clamps
#print axioms BR.C05.step_inv
#print axioms BR.C05.step_bookkeeping
#print axioms BR.C05.history_inv
#print axioms BR.C05.new_inv
#print axioms BR.Rot.exp6_conj
#print axioms BR.Rot.exp3_conj
#print axioms BR.Rot.fkinSpace_conj
#print axioms BR.hat_conj
#print axioms BR.norm3_rot
