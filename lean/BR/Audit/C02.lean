import BR.Props.C02
#print axioms BR.C02.matrixLog3_port_eq_ref
#print axioms BR.C02.matrixLog6_port_eq_ref
#print axioms BR.C02.normalize_port_eq_ref
#print axioms BR.C02.ikLoop_success_sound
#print axioms BR.C02.ikLoop_failure_means_error
#print axioms BR.C02.ikErr_false_iff
#print axioms BR.C02.cubic_endpoints
#print axioms BR.C02.quintic_endpoints
#print axioms BR.C02.cubic_range
#print axioms BR.C02.quintic_range
