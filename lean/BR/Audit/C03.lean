import BR.Props.C03
import BR.Props.C03Band
#print axioms BR.C03.ofTAA_coherent
#print axioms BR.C03.ofTAA_wf
#print axioms BR.C03.ofTM_coherent
#print axioms BR.C03.result_ok
#print axioms BR.C03.step_ok
#print axioms BR.C03.history_coherent
#print axioms BR.C03.history_from_empty
#print axioms BR.C03.write_tm_read_taa
#print axioms BR.Rot.exp3_log3
#print axioms BR.Rot.exp3_isRot
#print axioms BR.Rot.isRot_mul
#print axioms BR.Rot.quatToRot_isRot
#print axioms BR.Rot.hat_vee_log3
#print axioms BR.C03B.rod_sub_one_entry_bound
#print axioms BR.C03B.band_roundtrip_bound
