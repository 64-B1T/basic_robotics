import BR.Props.C01
#print axioms BR.C01.vee_hat
#print axioms BR.C01.hat_vee
#print axioms BR.C01.vee6_hat6
#print axioms BR.C01.hat6_vee6
#print axioms BR.C01.exp3_mem_SO3
#print axioms BR.C01.exp6_mem_SE3
#print axioms BR.C01.log3_exp3
#print axioms BR.C01.log3_exp3_small
#print axioms BR.C01.exp3_log3
#print axioms BR.Rot.exp3_log3_generic
#print axioms BR.Rot.exp3_log3_halfturn
#print axioms BR.Rot.exp3_log3_identity
#print axioms BR.C01.transInv_mul
#print axioms BR.C01.mul_transInv
#print axioms BR.C01.adjoint_mul
#print axioms BR.C01.adjoint_transInv
#print axioms BR.C01.conj_hat6
#print axioms BR.C01.ad_bracket
#print axioms BR.Rot.hat_cofactor
#print axioms BR.Rot.rod_orth
#print axioms BR.Rot.rod_det
#print axioms BR.C01.log6_exp6
#print axioms BR.C01.exp6_log6_below_pi
#print axioms BR.C01.Log6.lterm_mul_G
#print axioms BR.C01.Log6.cot_half
#print axioms BR.C01.exp6_log6_halfturn
#print axioms BR.C01.exp6_log6
#print axioms BR.Rot.log3_halfturn_form
