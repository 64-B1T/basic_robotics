import BR.Props.C08
#print axioms BR.C08.id_superposition
#print axioms BR.C08.torque_decomposition
#print axioms BR.C08.massForm_nonneg
#print axioms BR.C08.addL_assoc
#print axioms BR.C08.addL_comm
#print axioms BR.C08M.zero_velocity_power
#print axioms BR.C08M.energyForm_symm
#print axioms BR.C08M.mass_symmetric
#print axioms BR.C08M.mass_nonneg
#print axioms BR.C08F.inverse_of_forward
#print axioms BR.C08F.solve_hypothesis_met
#print axioms BR.C08F.massResponse_add
#print axioms BR.C08F.massResponse_smul
