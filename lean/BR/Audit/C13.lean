import BR.Props.C13
#print axioms BR.C13.loader_screw
#print axioms BR.C13.exp6_pure_rot
#print axioms BR.C13.chainFK_left
#print axioms BR.C13.loader_FK_eq_urdfFK
#print axioms BR.C13.dof_and_order
#print axioms BR.C13.rpy_origin
#print axioms BR.C13.origin_isRot
#print axioms BR.Rot.exp6_conj
