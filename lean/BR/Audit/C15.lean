import BR.Props.C15
#print axioms BR.C15.gen1_iff_sat
#print axioms BR.C15.obstructedBox_iff
#print axioms BR.C15.obstruction2_eq_or
#print axioms BR.C15.obstruction0_never
#print axioms BR.C15.obstruction_iff_any
#print axioms BR.SegBox.sat_iff
