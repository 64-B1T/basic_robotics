import BR.Props.C16
#print axioms BR.C16.choose_fold
#print axioms BR.C16.insert_attaches_cheapest_free
#print axioms BR.C16.treeInv_insert
#print axioms BR.C16.tree_rooted_acyclic_cost_consistent
#print axioms BR.C16.pathTo_shape
#print axioms BR.C16.path_shape
#print axioms BR.C16.pathTo_cost
#print axioms BR.C16.generated_cost_is_path_length
#print axioms BR.C16.cost_ge_parent
#print axioms BR.C16.generated_cost_nonneg
