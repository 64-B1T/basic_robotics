import BR.Gen.C17
#print axioms BR.Gen.C17.Normalize_0
#print axioms BR.Gen.C17.AngleMod_0
#print axioms BR.Gen.C17.AngleMod_1
#print axioms BR.Gen.C17.AngleMod_2
#print axioms BR.Gen.C17.Norm_0
#print axioms BR.Gen.C17.Norm_1
#print axioms BR.Gen.C17.Norm_2
#print axioms BR.Gen.C17.Norm_3
#print axioms BR.Gen.C17.Norm_4
#print axioms BR.Gen.C17.Norm_5
#print axioms BR.Gen.C17.Norm6_0
#print axioms BR.Gen.C17.Norm6_1
#print axioms BR.Gen.C17.Norm6_2
#print axioms BR.Gen.C17.Norm6_3
#print axioms BR.Gen.C17.Norm6_4
#print axioms BR.Gen.C17.Norm6_5
#print axioms BR.Gen.C17.VecToso3_0
#print axioms BR.Gen.C17.VecToso3_1
#print axioms BR.Gen.C17.VecToso3_2
#print axioms BR.Gen.C17.VecToso3_3
#print axioms BR.Gen.C17.VecToso3_4
#print axioms BR.Gen.C17.VecToso3_5
#print axioms BR.Gen.C17.so3ToVec_0
#print axioms BR.Gen.C17.so3ToVec_1
#print axioms BR.Gen.C17.so3ToVec_2
#print axioms BR.Gen.C17.so3ToVec_3
#print axioms BR.Gen.C17.so3ToVec_4
#print axioms BR.Gen.C17.so3ToVec_5
#print axioms BR.Gen.C17.AxisAng3_0
#print axioms BR.Gen.C17.AxisAng3_1
#print axioms BR.Gen.C17.MatrixExp3_0
#print axioms BR.Gen.C17.MatrixExp3_1
#print axioms BR.Gen.C17.MatrixExp3_2
#print axioms BR.Gen.C17.MatrixExp3_3
#print axioms BR.Gen.C17.MatrixExp3_4
#print axioms BR.Gen.C17.SafeTrace_0
#print axioms BR.Gen.C17.SafeTrace_1
#print axioms BR.Gen.C17.SafeTrace_2
#print axioms BR.Gen.C17.SafeTrace_3
#print axioms BR.Gen.C17.SafeTrace_4
#print axioms BR.Gen.C17.MatrixLog3_0
#print axioms BR.Gen.C17.MatrixLog3_1
#print axioms BR.Gen.C17.MatrixLog3_2
#print axioms BR.Gen.C17.MatrixLog3_3
#print axioms BR.Gen.C17.MatrixLog3_4
#print axioms BR.Gen.C17.MatrixLog3_5
#print axioms BR.Gen.C17.MatrixLog3_6
#print axioms BR.Gen.C17.MatrixLog3_7
#print axioms BR.Gen.C17.MatrixLog3_8
#print axioms BR.Gen.C17.MatrixLog3_9
#print axioms BR.Gen.C17.MatrixLog3_10
#print axioms BR.Gen.C17.MatrixLog3_11
#print axioms BR.Gen.C17.MatrixLog3_12
#print axioms BR.Gen.C17.MatrixLog3_13
#print axioms BR.Gen.C17.MatrixLog3_14
#print axioms BR.Gen.C17.MatrixLog3_15
#print axioms BR.Gen.C17.MatrixLog3_16
#print axioms BR.Gen.C17.MatrixLog3_17
#print axioms BR.Gen.C17.MatrixLog3_18
#print axioms BR.Gen.C17.MatrixLog3_19
#print axioms BR.Gen.C17.MatrixLog3_20
#print axioms BR.Gen.C17.MatrixLog3_21
#print axioms BR.Gen.C17.MatrixLog3_22
#print axioms BR.Gen.C17.MatrixLog3_23
#print axioms BR.Gen.C17.MatrixLog3_24
#print axioms BR.Gen.C17.MatrixLog3_25
#print axioms BR.Gen.C17.MatrixLog3_26
#print axioms BR.Gen.C17.MatrixLog3_27
#print axioms BR.Gen.C17.MatrixLog3_28
#print axioms BR.Gen.C17.RpToTrans_0
#print axioms BR.Gen.C17.RpToTrans_1
#print axioms BR.Gen.C17.RpToTrans_2
#print axioms BR.Gen.C17.RpToTrans_3
#print axioms BR.Gen.C17.TransToRp_0
#print axioms BR.Gen.C17.TransToRp_1
#print axioms BR.Gen.C17.TransToRp_2
#print axioms BR.Gen.C17.TransToRp_3
#print axioms BR.Gen.C17.TransInv_0
#print axioms BR.Gen.C17.TransInv_1
#print axioms BR.Gen.C17.TransInv_2
#print axioms BR.Gen.C17.TransInv_3
#print axioms BR.Gen.C17.TransInv_4
#print axioms BR.Gen.C17.TransInv_5
#print axioms BR.Gen.C17.VecTose3_0
#print axioms BR.Gen.C17.VecTose3_1
#print axioms BR.Gen.C17.VecTose3_2
#print axioms BR.Gen.C17.VecTose3_3
#print axioms BR.Gen.C17.VecTose3_4
#print axioms BR.Gen.C17.VecTose3_5
#print axioms BR.Gen.C17.VecTose3_6
#print axioms BR.Gen.C17.VecTose3_7
#print axioms BR.Gen.C17.VecTose3_8
#print axioms BR.Gen.C17.se3ToVec_0
#print axioms BR.Gen.C17.se3ToVec_1
#print axioms BR.Gen.C17.se3ToVec_2
#print axioms BR.Gen.C17.se3ToVec_3
#print axioms BR.Gen.C17.se3ToVec_4
#print axioms BR.Gen.C17.se3ToVec_5
#print axioms BR.Gen.C17.se3ToVec_6
#print axioms BR.Gen.C17.se3ToVec_7
#print axioms BR.Gen.C17.se3ToVec_8
#print axioms BR.Gen.C17.se3ToVec_9
#print axioms BR.Gen.C17.se3ToVec_10
#print axioms BR.Gen.C17.se3ToVec_11
#print axioms BR.Gen.C17.Adjoint_0
#print axioms BR.Gen.C17.Adjoint_1
#print axioms BR.Gen.C17.Adjoint_2
#print axioms BR.Gen.C17.Adjoint_3
#print axioms BR.Gen.C17.Adjoint_4
#print axioms BR.Gen.C17.Adjoint_5
#print axioms BR.Gen.C17.Adjoint_6
#print axioms BR.Gen.C17.Adjoint_7
#print axioms BR.Gen.C17.Adjoint_8
#print axioms BR.Gen.C17.ScrewToAxis_0
#print axioms BR.Gen.C17.ScrewToAxis_1
#print axioms BR.Gen.C17.AxisAng6_0
#print axioms BR.Gen.C17.AxisAng6_1
#print axioms BR.Gen.C17.AxisAng6_2
#print axioms BR.Gen.C17.AxisAng6_3
#print axioms BR.Gen.C17.AxisAng6_4
#print axioms BR.Gen.C17.AxisAng6_5
#print axioms BR.Gen.C17.AxisAng6_6
#print axioms BR.Gen.C17.AxisAng6_7
#print axioms BR.Gen.C17.MatrixExp6_0
#print axioms BR.Gen.C17.MatrixExp6_1
#print axioms BR.Gen.C17.MatrixExp6_2
#print axioms BR.Gen.C17.MatrixExp6_3
#print axioms BR.Gen.C17.MatrixExp6_4
#print axioms BR.Gen.C17.MatrixExp6_5
#print axioms BR.Gen.C17.MatrixExp6_6
#print axioms BR.Gen.C17.MatrixExp6_7
#print axioms BR.Gen.C17.MatrixExp6_8
#print axioms BR.Gen.C17.MatrixExp6_9
#print axioms BR.Gen.C17.MatrixExp6_10
#print axioms BR.Gen.C17.MatrixExp6_11
#print axioms BR.Gen.C17.MatrixExp6_12
#print axioms BR.Gen.C17.MatrixExp6_13
#print axioms BR.Gen.C17.MatrixExp6_14
#print axioms BR.Gen.C17.MatrixExp6_15
#print axioms BR.Gen.C17.MatrixExp6_16
#print axioms BR.Gen.C17.MatrixExp6_17
#print axioms BR.Gen.C17.MatrixExp6_18
#print axioms BR.Gen.C17.MatrixExp6_19
#print axioms BR.Gen.C17.MatrixExp6_20
#print axioms BR.Gen.C17.MatrixExp6_21
#print axioms BR.Gen.C17.MatrixExp6_22
#print axioms BR.Gen.C17.LocalToGlobal_0
#print axioms BR.Gen.C17.LocalToGlobal_1
#print axioms BR.Gen.C17.LocalToGlobal_2
#print axioms BR.Gen.C17.LocalToGlobal_3
#print axioms BR.Gen.C17.LocalToGlobal_4
#print axioms BR.Gen.C17.LocalToGlobal_5
#print axioms BR.Gen.C17.LocalToGlobal_6
#print axioms BR.Gen.C17.LocalToGlobal_7
#print axioms BR.Gen.C17.LocalToGlobal_8
#print axioms BR.Gen.C17.LocalToGlobal_9
#print axioms BR.Gen.C17.LocalToGlobal_10
#print axioms BR.Gen.C17.LocalToGlobal_11
#print axioms BR.Gen.C17.LocalToGlobal_12
#print axioms BR.Gen.C17.LocalToGlobal_13
#print axioms BR.Gen.C17.LocalToGlobal_14
#print axioms BR.Gen.C17.LocalToGlobal_15
#print axioms BR.Gen.C17.GlobalToLocal_0
#print axioms BR.Gen.C17.GlobalToLocal_1
#print axioms BR.Gen.C17.GlobalToLocal_2
#print axioms BR.Gen.C17.GlobalToLocal_3
#print axioms BR.Gen.C17.GlobalToLocal_4
#print axioms BR.Gen.C17.GlobalToLocal_5
#print axioms BR.Gen.C17.GlobalToLocal_6
#print axioms BR.Gen.C17.GlobalToLocal_7
#print axioms BR.Gen.C17.GlobalToLocal_8
#print axioms BR.Gen.C17.GlobalToLocal_9
#print axioms BR.Gen.C17.GlobalToLocal_10
#print axioms BR.Gen.C17.GlobalToLocal_11
#print axioms BR.Gen.C17.GlobalToLocal_12
#print axioms BR.Gen.C17.GlobalToLocal_13
#print axioms BR.Gen.C17.GlobalToLocal_14
#print axioms BR.Gen.C17.GlobalToLocal_15
#print axioms BR.Gen.C17.MatrixLog6_0
#print axioms BR.Gen.C17.MatrixLog6_1
#print axioms BR.Gen.C17.MatrixLog6_2
#print axioms BR.Gen.C17.MatrixLog6_3
#print axioms BR.Gen.C17.MatrixLog6_4
#print axioms BR.Gen.C17.MatrixLog6_5
#print axioms BR.Gen.C17.MatrixLog6_6
#print axioms BR.Gen.C17.MatrixLog6_7
#print axioms BR.Gen.C17.MatrixLog6_8
#print axioms BR.Gen.C17.MatrixLog6_9
#print axioms BR.Gen.C17.MatrixLog6_10
#print axioms BR.Gen.C17.MatrixLog6_11
#print axioms BR.Gen.C17.MatrixLog6_12
#print axioms BR.Gen.C17.MatrixLog6_13
#print axioms BR.Gen.C17.MatrixLog6_14
#print axioms BR.Gen.C17.MatrixLog6_15
#print axioms BR.Gen.C17.MatrixLog6_16
#print axioms BR.Gen.C17.MatrixLog6_17
#print axioms BR.Gen.C17.MatrixLog6_18
#print axioms BR.Gen.C17.MatrixLog6_19
#print axioms BR.Gen.C17.MatrixLog6_20
#print axioms BR.Gen.C17.MatrixLog6_21
#print axioms BR.Gen.C17.DistanceToSE3_0
#print axioms BR.Gen.C17.DistanceToSE3_1
#print axioms BR.Gen.C17.DistanceToSE3_2
#print axioms BR.Gen.C17.DistanceToSE3_3
#print axioms BR.Gen.C17.DistanceToSE3_4
#print axioms BR.Gen.C17.DistanceToSE3_5
#print axioms BR.Gen.C17.DistanceToSE3_6
#print axioms BR.Gen.C17.DistanceToSE3_7
#print axioms BR.Gen.C17.TestIfSO3_0
#print axioms BR.Gen.C17.TestIfSO3_1
#print axioms BR.Gen.C17.TestIfSE3_0
#print axioms BR.Gen.C17.TestIfSE3_1
#print axioms BR.Gen.C17.FKinBody_0
#print axioms BR.Gen.C17.FKinBody_1
#print axioms BR.Gen.C17.FKinBody_2
#print axioms BR.Gen.C17.FKinBody_3
#print axioms BR.Gen.C17.FKinBody_4
#print axioms BR.Gen.C17.FKinBody_5
#print axioms BR.Gen.C17.FKinSpace_0
#print axioms BR.Gen.C17.FKinSpace_1
#print axioms BR.Gen.C17.FKinSpace_2
#print axioms BR.Gen.C17.FKinSpace_3
#print axioms BR.Gen.C17.FKinSpace_4
#print axioms BR.Gen.C17.FKinSpace_5
#print axioms BR.Gen.C17.SafeCopy_0
#print axioms BR.Gen.C17.SafeCopy_1
#print axioms BR.Gen.C17.SafeCopy_2
#print axioms BR.Gen.C17.SafeCopy_3
#print axioms BR.Gen.C17.SafeCopy_4
#print axioms BR.Gen.C17.SafeCopy_5
#print axioms BR.Gen.C17.JacobianBody_0
#print axioms BR.Gen.C17.JacobianBody_1
#print axioms BR.Gen.C17.JacobianBody_2
#print axioms BR.Gen.C17.JacobianBody_3
#print axioms BR.Gen.C17.JacobianBody_4
#print axioms BR.Gen.C17.JacobianBody_5
#print axioms BR.Gen.C17.JacobianBody_6
#print axioms BR.Gen.C17.JacobianBody_7
#print axioms BR.Gen.C17.JacobianBody_8
#print axioms BR.Gen.C17.JacobianBody_9
#print axioms BR.Gen.C17.JacobianBody_10
#print axioms BR.Gen.C17.JacobianBody_11
#print axioms BR.Gen.C17.JacobianSpace_0
#print axioms BR.Gen.C17.JacobianSpace_1
#print axioms BR.Gen.C17.JacobianSpace_2
#print axioms BR.Gen.C17.JacobianSpace_3
#print axioms BR.Gen.C17.JacobianSpace_4
#print axioms BR.Gen.C17.JacobianSpace_5
#print axioms BR.Gen.C17.JacobianSpace_6
#print axioms BR.Gen.C17.JacobianSpace_7
#print axioms BR.Gen.C17.JacobianSpace_8
#print axioms BR.Gen.C17.JacobianSpace_9
#print axioms BR.Gen.C17.JacobianSpace_10
#print axioms BR.Gen.C17.JacobianSpace_11
#print axioms BR.Gen.C17.IKinBody_0
#print axioms BR.Gen.C17.IKinBody_1
#print axioms BR.Gen.C17.IKinBody_2
#print axioms BR.Gen.C17.IKinBody_3
#print axioms BR.Gen.C17.IKinBody_4
#print axioms BR.Gen.C17.IKinBody_5
#print axioms BR.Gen.C17.IKinBody_6
#print axioms BR.Gen.C17.IKinBody_7
#print axioms BR.Gen.C17.IKinBody_8
#print axioms BR.Gen.C17.IKinBody_9
#print axioms BR.Gen.C17.IKinBody_10
#print axioms BR.Gen.C17.IKinBody_11
#print axioms BR.Gen.C17.IKinBody_12
#print axioms BR.Gen.C17.IKinBody_13
#print axioms BR.Gen.C17.IKinBody_14
#print axioms BR.Gen.C17.IKinBody_15
#print axioms BR.Gen.C17.IKinBody_16
#print axioms BR.Gen.C17.IKinBody_17
#print axioms BR.Gen.C17.IKinBody_18
#print axioms BR.Gen.C17.IKinBody_19
#print axioms BR.Gen.C17.IKinBody_20
#print axioms BR.Gen.C17.IKinBody_21
#print axioms BR.Gen.C17.IKinBody_22
#print axioms BR.Gen.C17.IKinBody_23
#print axioms BR.Gen.C17.IKinBody_24
#print axioms BR.Gen.C17.IKinBody_25
#print axioms BR.Gen.C17.IKinBody_26
#print axioms BR.Gen.C17.IKinBody_27
#print axioms BR.Gen.C17.IKinBody_28
#print axioms BR.Gen.C17.IKinBody_29
#print axioms BR.Gen.C17.IKinBody_30
#print axioms BR.Gen.C17.IKinBody_31
#print axioms BR.Gen.C17.IKinBody_32
#print axioms BR.Gen.C17.IKinBody_33
#print axioms BR.Gen.C17.IKinBody_34
#print axioms BR.Gen.C17.IKinBody_35
#print axioms BR.Gen.C17.IKinBody_36
#print axioms BR.Gen.C17.IKinBody_37
#print axioms BR.Gen.C17.IKinSpace_0
#print axioms BR.Gen.C17.IKinSpace_1
#print axioms BR.Gen.C17.IKinSpace_2
#print axioms BR.Gen.C17.IKinSpace_3
#print axioms BR.Gen.C17.IKinSpace_4
#print axioms BR.Gen.C17.IKinSpace_5
#print axioms BR.Gen.C17.IKinSpace_6
#print axioms BR.Gen.C17.IKinSpace_7
#print axioms BR.Gen.C17.IKinSpace_8
#print axioms BR.Gen.C17.IKinSpace_9
#print axioms BR.Gen.C17.IKinSpace_10
#print axioms BR.Gen.C17.IKinSpace_11
#print axioms BR.Gen.C17.IKinSpace_12
#print axioms BR.Gen.C17.IKinSpace_13
#print axioms BR.Gen.C17.IKinSpace_14
#print axioms BR.Gen.C17.IKinSpace_15
#print axioms BR.Gen.C17.IKinSpace_16
#print axioms BR.Gen.C17.IKinSpace_17
#print axioms BR.Gen.C17.IKinSpace_18
#print axioms BR.Gen.C17.IKinSpace_19
#print axioms BR.Gen.C17.IKinSpace_20
#print axioms BR.Gen.C17.IKinSpace_21
#print axioms BR.Gen.C17.IKinSpace_22
#print axioms BR.Gen.C17.IKinSpace_23
#print axioms BR.Gen.C17.IKinSpace_24
#print axioms BR.Gen.C17.IKinSpace_25
#print axioms BR.Gen.C17.IKinSpace_26
#print axioms BR.Gen.C17.IKinSpace_27
#print axioms BR.Gen.C17.IKinSpace_28
#print axioms BR.Gen.C17.IKinSpace_29
#print axioms BR.Gen.C17.IKinSpace_30
#print axioms BR.Gen.C17.IKinSpace_31
#print axioms BR.Gen.C17.IKinSpace_32
#print axioms BR.Gen.C17.IKinSpace_33
#print axioms BR.Gen.C17.IKinSpace_34
#print axioms BR.Gen.C17.IKinSpace_35
#print axioms BR.Gen.C17.IKinSpace_36
#print axioms BR.Gen.C17.IKinSpace_37
#print axioms BR.Gen.C17.IKinSpace_38
#print axioms BR.Gen.C17.IKinSpace_39
#print axioms BR.Gen.C17.IKinSpace_40
#print axioms BR.Gen.C17.IKinSpace_41
#print axioms BR.Gen.C17.ad_0
#print axioms BR.Gen.C17.ad_1
#print axioms BR.Gen.C17.ad_2
#print axioms BR.Gen.C17.ad_3
#print axioms BR.Gen.C17.ad_4
#print axioms BR.Gen.C17.ad_5
#print axioms BR.Gen.C17.ad_6
#print axioms BR.Gen.C17.ad_7
#print axioms BR.Gen.C17.ad_8
#print axioms BR.Gen.C17.ad_9
#print axioms BR.Gen.C17.ad_10
#print axioms BR.Gen.C17.ad_11
#print axioms BR.Gen.C17.ad_12
#print axioms BR.Gen.C17.ad_13
#print axioms BR.Gen.C17.JointTrajectory_0
#print axioms BR.Gen.C17.JointTrajectory_1
#print axioms BR.Gen.C17.IKinSpaceConstrained_0
#print axioms BR.Gen.C17.IKinSpaceConstrained_1
#print axioms BR.Gen.C17.IKinSpaceConstrained_2
#print axioms BR.Gen.C17.IKinSpaceConstrained_3
#print axioms BR.Gen.C17.IKinSpaceConstrained_4
#print axioms BR.Gen.C17.IKinSpaceConstrained_5
#print axioms BR.Gen.C17.IKinSpaceConstrained_6
#print axioms BR.Gen.C17.IKinSpaceConstrained_7
#print axioms BR.Gen.C17.IKinSpaceConstrained_8
#print axioms BR.Gen.C17.IKinSpaceConstrained_9
#print axioms BR.Gen.C17.IKinSpaceConstrained_10
#print axioms BR.Gen.C17.IKinSpaceConstrained_11
#print axioms BR.Gen.C17.IKinSpaceConstrained_12
#print axioms BR.Gen.C17.IKinSpaceConstrained_13
#print axioms BR.Gen.C17.IKinSpaceConstrained_14
#print axioms BR.Gen.C17.IKinSpaceConstrained_15
#print axioms BR.Gen.C17.IKinSpaceConstrained_16
#print axioms BR.Gen.C17.IKinSpaceConstrained_17
#print axioms BR.Gen.C17.IKinSpaceConstrained_18
#print axioms BR.Gen.C17.IKinSpaceConstrained_19
#print axioms BR.Gen.C17.IKinSpaceConstrained_20
#print axioms BR.Gen.C17.IKinSpaceConstrained_21
#print axioms BR.Gen.C17.IKinSpaceConstrained_22
#print axioms BR.Gen.C17.IKinSpaceConstrained_23
#print axioms BR.Gen.C17.IKinSpaceConstrained_24
#print axioms BR.Gen.C17.IKinSpaceConstrained_25
#print axioms BR.Gen.C17.IKinSpaceConstrained_26
#print axioms BR.Gen.C17.IKinSpaceConstrained_27
#print axioms BR.Gen.C17.IKinSpaceConstrained_28
#print axioms BR.Gen.C17.IKinSpaceConstrained_29
#print axioms BR.Gen.C17.IKinSpaceConstrained_30
#print axioms BR.Gen.C17.IKinSpaceConstrained_31
#print axioms BR.Gen.C17.IKinSpaceConstrained_32
#print axioms BR.Gen.C17.IKinSpaceConstrained_33
#print axioms BR.Gen.C17.IKinSpaceConstrained_34
#print axioms BR.Gen.C17.IKinSpaceConstrained_35
#print axioms BR.Gen.C17.IKinSpaceConstrained_36
#print axioms BR.Gen.C17.IKinSpaceConstrained_37
#print axioms BR.Gen.C17.SPIKinSpace_0
#print axioms BR.Gen.C17.SPIKinSpace_1
#print axioms BR.Gen.C17.SPIKinSpace_2
#print axioms BR.Gen.C17.SPIKinSpace_3
#print axioms BR.Gen.C17.SPIKinSpace_4
#print axioms BR.Gen.C17.SPIKinSpace_5
#print axioms BR.Gen.C17.SPIKinSpace_6
#print axioms BR.Gen.C17.SPIKinSpace_7
#print axioms BR.Gen.C17.SPIKinSpace_8
#print axioms BR.Gen.C17.SPIKinSpace_9
#print axioms BR.Gen.C17.SPIKinSpace_10
#print axioms BR.Gen.C17.SPIKinSpace_11
#print axioms BR.Gen.C17.SPIKinSpace_12
#print axioms BR.Gen.C17.SPIKinSpace_13
#print axioms BR.Gen.C17.SPIKinSpace_14
#print axioms BR.Gen.C17.SPIKinSpace_15
#print axioms BR.Gen.C17.SPIKinSpace_16
#print axioms BR.Gen.C17.SPIKinSpace_17
#print axioms BR.Gen.C17.SPIKinSpace_18
#print axioms BR.Gen.C17.SPIKinSpace_19
#print axioms BR.Gen.C17.SPFKinSpaceR_0
#print axioms BR.Gen.C17.SPFKinSpaceR_1
#print axioms BR.Gen.C17.SPFKinSpaceR_2
#print axioms BR.Gen.C17.SPFKinSpaceR_3
#print axioms BR.Gen.C17.SPFKinSpaceR_4
#print axioms BR.Gen.C17.SPFKinSpaceR_5
#print axioms BR.Gen.C17.SPFKinSpaceR_6
#print axioms BR.Gen.C17.SPFKinSpaceR_7
#print axioms BR.Gen.C17.SPFKinSpaceR_8
#print axioms BR.Gen.C17.SPFKinSpaceR_9
#print axioms BR.Gen.C17.SPFKinSpaceR_10
#print axioms BR.Gen.C17.SPFKinSpaceR_11
#print axioms BR.Gen.C17.SPFKinSpaceR_12
#print axioms BR.Gen.C17.SPFKinSpaceR_13
#print axioms BR.Gen.C17.SPFKinSpaceR_14
#print axioms BR.Gen.C17.SPFKinSpaceR_15
#print axioms BR.Gen.C17.SPFKinSpaceR_16
#print axioms BR.Gen.C17.SPFKinSpaceR_17
#print axioms BR.Gen.C17.SPFKinSpaceR_18
#print axioms BR.Gen.C17.SPFKinSpaceR_19
#print axioms BR.Gen.C17.SPFKinSpaceR_20
#print axioms BR.Gen.C17.SPFKinSpaceR_21
#print axioms BR.Gen.C17.SPFKinSpaceR_22
#print axioms BR.Gen.C17.SPFKinSpaceR_23
#print axioms BR.Gen.C17.SPFKinSpaceR_24
#print axioms BR.Gen.C17.SPFKinSpaceR_25
#print axioms BR.Gen.C17.SPFKinSpaceR_26
#print axioms BR.Gen.C17.SPFKinSpaceR_27
#print axioms BR.Gen.C17.SPFKinSpaceR_28
#print axioms BR.Gen.C17.SPFKinSpaceR_29
#print axioms BR.Gen.C17.SPFKinSpaceR_30
#print axioms BR.Gen.C17.SPFKinSpaceR_31
#print axioms BR.Gen.C17.SPFKinSpaceR_32
#print axioms BR.Gen.C17.SPFKinSpaceR_33
#print axioms BR.Gen.C17.SPFKinSpaceR_34
#print axioms BR.Gen.C17.SPFKinSpaceR_35
#print axioms BR.Gen.C17.SPFKinSpaceR_36
#print axioms BR.Gen.C17.SPFKinSpaceR_37
#print axioms BR.Gen.C17.SPFKinSpaceR_38
#print axioms BR.Gen.C17.SPFKinSpaceR_39
#print axioms BR.Gen.C17.SPFKinSpaceR_40
#print axioms BR.Gen.C17.SPFKinSpaceR_41
#print axioms BR.Gen.C17.SPFKinSpaceR_42
#print axioms BR.Gen.C17.SPFKinSpaceR_43
#print axioms BR.Gen.C17.SPFKinSpaceR_44
#print axioms BR.Gen.C17.SPFKinSpaceR_45
#print axioms BR.Gen.C17.SPFKinSpaceR_46
#print axioms BR.Gen.C17.SPFKinSpaceR_47
#print axioms BR.Gen.C17.SPFKinSpaceR_48
#print axioms BR.Gen.C17.SPFKinSpaceR_49
#print axioms BR.Gen.C17.SPFKinSpaceR_50
#print axioms BR.Gen.C17.SPFKinSpaceR_51
#print axioms BR.Gen.C17.SPFKinSpaceR_52
#print axioms BR.Gen.C17.SPFKinSpaceR_53
#print axioms BR.Gen.C17.SPFKinSpaceR_54
#print axioms BR.Gen.C17.SPFKinSpaceR_55
#print axioms BR.Gen.C17.TrVec_0
#print axioms BR.Gen.C17.TrVec_1
#print axioms BR.Gen.C17.site_FK_0
#print axioms BR.Gen.C17.site_FK_1
#print axioms BR.Gen.C17.site_FK_2
#print axioms BR.Gen.C17.site_FK_3
#print axioms BR.Gen.C17.site_FKJoint_0
#print axioms BR.Gen.C17.site_FKJoint_1
#print axioms BR.Gen.C17.site_FKJoint_2
#print axioms BR.Gen.C17.site_FKJoint_3
#print axioms BR.Gen.C17.site_FKJoint_4
#print axioms BR.Gen.C17.site_FKLink_0
#print axioms BR.Gen.C17.site_FKLink_1
#print axioms BR.Gen.C17.site_FKLink_2
#print axioms BR.Gen.C17.site_FKLink_3
#print axioms BR.Gen.C17.site_FKLink_4
#print axioms BR.Gen.C17.site_FKLink_5
#print axioms BR.Gen.C17.site_FKLink_6
#print axioms BR.Gen.C17.site_IK_0
#print axioms BR.Gen.C17.site_IK_1
#print axioms BR.Gen.C17.site_IK_2
#print axioms BR.Gen.C17.site_IK_3
#print axioms BR.Gen.C17.site_IK_4
#print axioms BR.Gen.C17.site_IK_5
#print axioms BR.Gen.C17.site_IK_6
#print axioms BR.Gen.C17.site_IK_7
#print axioms BR.Gen.C17.site_IK_8
#print axioms BR.Gen.C17.site_IK_9
#print axioms BR.Gen.C17.site_IK_10
#print axioms BR.Gen.C17.site_IK_11
#print axioms BR.Gen.C17.site_TAAtoTM_0
#print axioms BR.Gen.C17.site_TAAtoTM_1
#print axioms BR.Gen.C17.site_TAAtoTM_2
#print axioms BR.Gen.C17.site_TAAtoTM_3
#print axioms BR.Gen.C17.site_TAAtoTM_4
#print axioms BR.Gen.C17.site_TAAtoTM_5
#print axioms BR.Gen.C17.site_TAAtoTM_6
#print axioms BR.Gen.C17.site_TAAtoTM_7
#print axioms BR.Gen.C17.site_TMtoTAA_0
#print axioms BR.Gen.C17.site_TMtoTAA_1
#print axioms BR.Gen.C17.site_TMtoTAA_2
#print axioms BR.Gen.C17.site_TMtoTAA_3
#print axioms BR.Gen.C17.site_TMtoTAA_4
#print axioms BR.Gen.C17.site_TMtoTAA_5
#print axioms BR.Gen.C17.site__FKRaphson_0
#print axioms BR.Gen.C17.site__FKRaphson_1
#print axioms BR.Gen.C17.site__FKRaphson_2
#print axioms BR.Gen.C17.site__FKRaphson_3
#print axioms BR.Gen.C17.site__FKRaphson_4
#print axioms BR.Gen.C17.site__FKRaphson_5
#print axioms BR.Gen.C17.site__FKRaphson_6
#print axioms BR.Gen.C17.site__FKRaphson_7
#print axioms BR.Gen.C17.site__FKRaphson_8
#print axioms BR.Gen.C17.site__FKRaphson_9
#print axioms BR.Gen.C17.site__FKRaphson_10
#print axioms BR.Gen.C17.site__FKRaphson_11
#print axioms BR.Gen.C17.site__IKHelper_0
#print axioms BR.Gen.C17.site__IKHelper_1
#print axioms BR.Gen.C17.site__IKHelper_2
#print axioms BR.Gen.C17.site__IKHelper_3
#print axioms BR.Gen.C17.site__IKHelper_4
#print axioms BR.Gen.C17.site__IKHelper_5
#print axioms BR.Gen.C17.site__IKHelper_6
#print axioms BR.Gen.C17.site__IKHelper_7
#print axioms BR.Gen.C17.site__IKHelper_8
#print axioms BR.Gen.C17.site__IKHelper_9
#print axioms BR.Gen.C17.site__IKHelper_10
#print axioms BR.Gen.C17.site__IKHelper_11
#print axioms BR.Gen.C17.site__helper_update_body_screws_0
#print axioms BR.Gen.C17.site__helper_update_body_screws_1
#print axioms BR.Gen.C17.site_adjoint_0
#print axioms BR.Gen.C17.site_adjoint_1
#print axioms BR.Gen.C17.site_constrainedIK_0
#print axioms BR.Gen.C17.site_constrainedIK_1
#print axioms BR.Gen.C17.site_constrainedIK_2
#print axioms BR.Gen.C17.site_constrainedIK_3
#print axioms BR.Gen.C17.site_constrainedIK_4
#print axioms BR.Gen.C17.site_constrainedIK_5
#print axioms BR.Gen.C17.site_constrainedIK_6
#print axioms BR.Gen.C17.site_constrainedIK_7
#print axioms BR.Gen.C17.site_constrainedIK_8
#print axioms BR.Gen.C17.site_constrainedIK_9
#print axioms BR.Gen.C17.site_constrainedIK_10
#print axioms BR.Gen.C17.site_constrainedIK_11
#print axioms BR.Gen.C17.site_exp6_0
#print axioms BR.Gen.C17.site_exp6_1
#print axioms BR.Gen.C17.site_exp6_2
#print axioms BR.Gen.C17.site_globalToLocal_0
#print axioms BR.Gen.C17.site_globalToLocal_1
#print axioms BR.Gen.C17.site_initialize_0
#print axioms BR.Gen.C17.site_initialize_1
#print axioms BR.Gen.C17.site_inv_0
#print axioms BR.Gen.C17.site_inv_1
#print axioms BR.Gen.C17.site_jacobian_0
#print axioms BR.Gen.C17.site_jacobian_1
#print axioms BR.Gen.C17.site_jacobianBody_0
#print axioms BR.Gen.C17.site_jacobianBody_1
#print axioms BR.Gen.C17.site_jacobianLink_0
#print axioms BR.Gen.C17.site_jacobianLink_1
#print axioms BR.Gen.C17.site_jacobianLink_2
#print axioms BR.Gen.C17.site_jacobianLink_3
#print axioms BR.Gen.C17.site_jacobianLink_4
#print axioms BR.Gen.C17.site_localToGlobal_0
#print axioms BR.Gen.C17.site_localToGlobal_1
