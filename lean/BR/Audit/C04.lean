import BR.Props.C04
#print axioms BR.C04.matmul_is_mul
#print axioms BR.C04.matmul_assoc
#print axioms BR.C04.inv_is_group_inv
#print axioms BR.C04.localToGlobal_eq
#print axioms BR.C04.globalToLocal_eq
#print axioms BR.C04.l2g_g2l_inverse
#print axioms BR.C04.ctor6_plain
#print axioms BR.C04.ctor_rpy
#print axioms BR.C04.ctor_pair
#print axioms BR.C04.ctor_matrix
#print axioms BR.C04.ctor_quat
#print axioms BR.C04.ctor_tm
#print axioms BR.C04.setQuat_getQuat_id
#print axioms BR.C04.quatToRot_smul
#print axioms BR.C04.quatToRot_neg
#print axioms BR.C04.ctor_quat_scale
#print axioms BR.C04.transInv_mul_rev
#print axioms BR.C04.transInv_transInv
#print axioms BR.C04.inv_matmul
