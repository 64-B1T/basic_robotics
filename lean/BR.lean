import BR.Scalar
import BR.Real
import BR.LinAlg
import BR.Gen.C15
import BR.Props.C01
import BR.Props.C02
import BR.Props.C03
import BR.Props.C03Band
import BR.Props.C04
import BR.Props.C05
import BR.Props.C06
import BR.Props.C06Deriv
import BR.Props.C06Body
import BR.Props.C07
import BR.Props.C08
import BR.Props.C09
import BR.Props.C10
import BR.Props.C10Rev
import BR.Props.C11
import BR.Props.C12
import BR.Props.C13
import BR.Props.C14
import BR.Props.C15
import BR.Props.C16
import BR.Props.C18
import BR.Props.C18Goal
import BR.Props.C19
import BR.Props.C20
